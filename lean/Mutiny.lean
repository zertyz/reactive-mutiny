import Mutiny.Model.Ring
import Mutiny.Model.LockRing
import Mutiny.Model.Handles
import Mutiny.Proofs.Basic
import Mutiny.Proofs.Owns
import Mutiny.Proofs.RingInv
import Mutiny.Proofs.RingProps
import Mutiny.Props.C01
import Mutiny.Props.C02
import Mutiny.Props.C16
import Mutiny.Model.Teardown
import Mutiny.Generated.DropOrder
import Mutiny.Generated.Tags
import Mutiny.Model.U32
import Mutiny.Model.IncAvg
import Mutiny.Model.Stack
import Mutiny.Proofs.SpinFlag
import Mutiny.Proofs.LockRingInv
import Mutiny.Proofs.LockRingProps
import Mutiny.Props.C01_LockRing
import Mutiny.Props.C02_LockRing
import Mutiny.Props.C16_LockRing
import Mutiny.Props.C20_LockRing
import Mutiny.Model.Wake
import Mutiny.Proofs.HandlesInv
import Mutiny.Proofs.HandlesProps
import Mutiny.Proofs.TeardownProps
import Mutiny.Props.C14
import Mutiny.Props.C13
import Mutiny.Props.C05
import Mutiny.Proofs.IncAvgInv
import Mutiny.Proofs.IncAvgOnce
import Mutiny.Proofs.IncAvgMean
import Mutiny.Proofs.StackInv
import Mutiny.Props.C19
import Mutiny.Props.C18
import Mutiny.Model.Multi
import Mutiny.Proofs.WakeView
import Mutiny.Proofs.WakeInv
import Mutiny.Proofs.WakeCancelInv
import Mutiny.Proofs.WakeChains
import Mutiny.Props.C04
import Mutiny.Props.C07
import Mutiny.Proofs.RingRsv
import Mutiny.Proofs.U32
import Mutiny.Props.C08
import Mutiny.Props.C20
import Mutiny.Props.C15
import Mutiny.Props.C18_Queue
import Mutiny.Model.MmapLog
import Mutiny.Model.Exec
import Mutiny.Proofs.MultiStep
import Mutiny.Proofs.MultiSeq
import Mutiny.Props.C10
import Mutiny.Proofs.ExecProps
import Mutiny.Proofs.Grouped
import Mutiny.Props.C11
import Mutiny.Generated.ExecTable
import Mutiny.Props.C11_Table
import Mutiny.Props.C06
import Mutiny.Props.C12
import Mutiny.Proofs.MmapInv
import Mutiny.Proofs.MmapProps
import Mutiny.Props.C09
import Mutiny.Proofs.MultiFan
import Mutiny.Proofs.CancelAllWalk
import Mutiny.Proofs.CancelAllLockInv
import Mutiny.Props.C03
import Mutiny.Props.C17
import Mutiny.Props.C17_Log
import Mutiny.Model.ZeroCopy
import Mutiny.Model.Ring32
import Mutiny.Proofs.Ring32Sim
import Mutiny.Props.C15_Machine
import Mutiny.Props.C15_Ops
import Mutiny.Generated.RingOps
import Mutiny.Proofs.ZeroCopyTok
import Mutiny.Proofs.ZeroCopyConserve
import Mutiny.Props.C13_ZeroCopy
import Mutiny.Model.WakeRuleLang
import Mutiny.Generated.WakeRules
import Mutiny.Props.C04_Rules
import Mutiny.Proofs.ZeroCopyValues
import Mutiny.Model.LockRing32
import Mutiny.Proofs.LockRing32Sim
import Mutiny.Model.CancelAll
import Mutiny.Props.C07_CancelAll
import Mutiny.Model.CancelAllLock
import Mutiny.Props.C07_CancelAllLock
import Mutiny.Props.C20_Wake
import Mutiny.Props.Tags
