import Mutiny.Model.Ring
import Mutiny.Proofs.Owns
import Mutiny.Proofs.U32

/-!
# Inductive invariant of the `Ring` model (M1)

`Inv s`: who holds which sequence number (producers exactly `[tail, enqTail)`, consumers `[head, deqHead)`, each once),
what the registers of a parked thread know about the shared state, and that buffer and ghost history form a bounded FIFO.
It is preserved as its regrouping `Inv.of`: `Shared` (no thread mentioned), `LocOK` (one thread's registers; monotone in
the shared state) and `Owns` per side; a program point is an instance of `Inv.move`, `claims`, `publish`, `write` or
`after`.

`Inv` is NOT an invariant of every `Reachable` state: a cancel by index can take a foreign sequence number (`stealRun`,
`cancel_steals`).  So `inv_apply` asks for `CanExact s a`, and the property theorems speak of `ReachableX n s`, reachable
by a run of `CanExact` actions (`RunOk`): every run without `.canIdx` (`reachableX_of_noCancel`), and every run in which
all producer-side holders are admitted whenever a cancel CAS succeeds (`canExact_of_allAdmitted`).

A new program point is entered by hand in `holdsP` / `passedP` / `pid` (or `holdsC` / `passedC` / `cid`), `LocOK`,
`step_origin`, the model's `tagOf` and, if it carries a counter value, `Ring32.imgLoc`: they end in a wildcard, which
accepts it silently.
-/

namespace Mutiny.Ring

/-! ## projection lemmas -/

@[simp] theorem thr_setThr (s : St) (t u : Nat) (l : Loc) :
    (setThr s t l).thr u = if u = t then l else s.thr u := rfl
@[simp] theorem N_setThr (s : St) (t : Nat) (l : Loc) : (setThr s t l).N = s.N := rfl
@[simp] theorem head_setThr (s : St) (t : Nat) (l : Loc) : (setThr s t l).head = s.head := rfl
@[simp] theorem tail_setThr (s : St) (t : Nat) (l : Loc) : (setThr s t l).tail = s.tail := rfl
@[simp] theorem enq_setThr (s : St) (t : Nat) (l : Loc) : (setThr s t l).enqTail = s.enqTail := rfl
@[simp] theorem deq_setThr (s : St) (t : Nat) (l : Loc) : (setThr s t l).deqHead = s.deqHead := rfl
@[simp] theorem buf_setThr (s : St) (t : Nat) (l : Loc) : (setThr s t l).buf = s.buf := rfl
@[simp] theorem acc_setThr (s : St) (t : Nat) (l : Loc) : (setThr s t l).accepted = s.accepted := rfl
@[simp] theorem del_setThr (s : St) (t : Nat) (l : Loc) : (setThr s t l).delivered = s.delivered := rfl

@[simp] theorem buf_setBuf (s : St) (i v j : Nat) :
    (setBuf s i v).buf j = if j = i then v else s.buf j := rfl
@[simp] theorem thr_setBuf (s : St) (i v : Nat) : (setBuf s i v).thr = s.thr := rfl
@[simp] theorem N_setBuf (s : St) (i v : Nat) : (setBuf s i v).N = s.N := rfl
@[simp] theorem head_setBuf (s : St) (i v : Nat) : (setBuf s i v).head = s.head := rfl
@[simp] theorem tail_setBuf (s : St) (i v : Nat) : (setBuf s i v).tail = s.tail := rfl
@[simp] theorem enq_setBuf (s : St) (i v : Nat) : (setBuf s i v).enqTail = s.enqTail := rfl
@[simp] theorem deq_setBuf (s : St) (i v : Nat) : (setBuf s i v).deqHead = s.deqHead := rfl
@[simp] theorem acc_setBuf (s : St) (i v : Nat) : (setBuf s i v).accepted = s.accepted := rfl
@[simp] theorem del_setBuf (s : St) (i v : Nat) : (setBuf s i v).delivered = s.delivered := rfl

theorem thr_setThr_self (s : St) (t : Nat) (l : Loc) : (setThr s t l).thr t = l := if_pos rfl

/-- the shared state after the `tail` CAS that publishes `v` (`pPublish`, `rPub`); `deqSt`: after the `head` CAS by which
    `t` releases `v` (`cRelease`).  One step each, not a whole call as `LockRing.enq` / `deq`: slot and claim counter
    moved before. -/
def enqSt (s : St) (v : Nat) : St := { s with tail := s.tail + 1, accepted := s.accepted ++ [v] }

def deqSt (s : St) (t v : Nat) : St := { s with head := s.head + 1, delivered := s.delivered ++ [(t, s.head, v)] }

@[simp] theorem N_enqSt (s : St) (v : Nat) : (enqSt s v).N = s.N := rfl

/-! ## the invariant -/

/-- a thread at this program point holds sequence number `k` on the producer side (`holdsC`: on the consumer side) -/
def holdsP : Loc → Nat → Prop
  | .pLoadHead _ id _, k => id = k
  | .pRecede _ id _ _, k => id = k
  | .pWrite _ id _, k => id = k
  | .pPublish _ id _, k => id = k
  | .rHold id, k => id = k
  | .rRet id _, k => id = k
  | .rPub id _ _, k => id = k
  | .rCan id _ _, k => id = k
  | _, _ => False

/-- a producer-side holder past its admission test: `id < head + N` was established (`passedC`: `id < tail`) -/
def passedP : Loc → Nat → Prop
  | .pWrite _ id _, k => id = k
  | .pPublish _ id _, k => id = k
  | .rHold id, k => id = k
  | .rRet id _, k => id = k
  | .rPub id _ _, k => id = k
  | .rCan id _ _, k => id = k
  | _, _ => False

def holdsC : Loc → Nat → Prop
  | .cLoadTail id, k => id = k
  | .cRecede id, k => id = k
  | .cRead id, k => id = k
  | .cRelease id _, k => id = k
  | _, _ => False

def passedC : Loc → Nat → Prop
  | .cRead id, k => id = k
  | .cRelease id _, k => id = k
  | _, _ => False

theorem passedP_holdsP {l : Loc} {k : Nat} (h : passedP l k) : holdsP l k := by
  cases l <;> first | exact h | exact h.elim

theorem passedC_holdsC {l : Loc} {k : Nat} (h : passedC l k) : holdsC l k := by
  cases l <;> first | exact h | exact h.elim

structure Inv (s : St) : Prop where
  npos : 0 < s.N
  hHT : s.head ≤ s.tail
  hTE : s.tail ≤ s.enqTail
  hHD : s.head ≤ s.deqHead
  hTN : s.tail ≤ s.head + s.N
  pRange : ∀ t k, holdsP (s.thr t) k → s.tail ≤ k ∧ k < s.enqTail
  pUniq : ∀ t1 t2 k, holdsP (s.thr t1) k → holdsP (s.thr t2) k → t1 = t2
  pCover : ∀ k, s.tail ≤ k → k < s.enqTail → ∃ t, holdsP (s.thr t) k
  pOk : ∀ t k, passedP (s.thr t) k → k < s.head + s.N
  cRange : ∀ t k, holdsC (s.thr t) k → s.head ≤ k ∧ k < s.deqHead
  cUniq : ∀ t1 t2 k, holdsC (s.thr t1) k → holdsC (s.thr t2) k → t1 = t2
  cCover : ∀ k, s.head ≤ k → k < s.deqHead → ∃ t, holdsC (s.thr t) k
  cOk : ∀ t k, passedC (s.thr t) k → k < s.tail
  accLen : s.accepted.length = s.tail
  bufOk : ∀ k, s.head ≤ k → k < s.tail → s.accepted[k]? = some (s.buf (k % s.N))
  wrOk : ∀ t v id len, s.thr t = .pPublish v id len → s.buf (id % s.N) = v
  relOk : ∀ t id v, s.thr t = .cRelease id v → s.accepted[id]? = some v
  delIds : s.delivered.map (·.2.1) = List.range s.head
  delVals : s.delivered.map (·.2.2) = s.accepted.take s.head
  idxOk : ∀ t id idx g, (s.thr t = .rPub id idx g ∨ s.thr t = .rCan id idx g) → idx = id % s.N ∧ g % s.N = idx
  chkOk : ∀ t h w, s.thr t = .cChkTail h w → h ≤ s.head ∧ (w = false → h < s.tail)
  recOk : ∀ t v id rsv w, s.thr t = .pRecede v id rsv w → w = true
  /-- a producer measuring the length after its publication: its sequence number is below `tail` -/
  lenOk : ∀ t id, s.thr t = .pLen id → id < s.tail

/-! ## the invariant, regrouped -/

/-- `holdsP` / `holdsC` as functions: `Inv` is stated with the relations (its fields are what the property theorems
    read), `Owns` (claim, give back, pass) needs functions, `holdsP_iff` translates.  At `hl : s.thr t = l` with `l` a
    constructor, `holdsP (s.thr t) id` is `by rw [hl]; rfl`. -/
def pid : Loc → Option Nat
  | .pLoadHead _ id _ | .pRecede _ id _ _ | .pWrite _ id _ | .pPublish _ id _
  | .rHold id | .rRet id _ | .rPub id _ _ | .rCan id _ _ => some id
  | _ => none

def cid : Loc → Option Nat
  | .cLoadTail id | .cRecede id | .cRead id | .cRelease id _ => some id
  | _ => none

theorem holdsP_iff (l : Loc) (k : Nat) : holdsP l k ↔ pid l = some k := by cases l <;> simp [holdsP, pid]
theorem holdsC_iff (l : Loc) (k : Nat) : holdsC l k ↔ cid l = some k := by cases l <;> simp [holdsC, cid]

theorem holdsP_unique {l : Loc} {k k' : Nat} (h : holdsP l k) (h' : holdsP l k') : k = k' :=
  Option.some.inj (((holdsP_iff l k).1 h).symm.trans ((holdsP_iff l k').1 h'))

/-- What a thread parked at `l` relies on besides range and uniqueness of the number it holds (those are `Owns`:
    `Inv.producers`, `Inv.consumers`).  What the less obvious clauses are for:
    `pPublish` (`wrOk`): the publication CAS appends `v` to `accepted`, and `bufOk` wants it in the slot.
    `rPub` / `rCan` (`idxOk`): index and guess are `≡ id (mod N)`, so a CAS that succeeds on the guess is, inside the
    window, on the caller's own number (`rPub_success`).
    `pRecede` (`recOk`): the model computes the ghost at the `head` load that failed the admission test, as "all `N`
    numbers from `head` were claimed"; that it is always `true` is what justifies the answer `full`.
    `cChkTail` (`chkOk`): `h ≤ head` bounds the `u32` comparison; if the queue was not empty when `head` was loaded
    (`w = false`) then `h < tail`, for good, so a `tail` load that returns `h` finds `w = true`: `empty` is answered
    only if the queue was empty at that load (`cChkTail_witness`). -/
def LocOK (s : St) : Loc → Prop
  | .pWrite _ id _ | .rHold id | .rRet id _ => id < s.head + s.N
  | .pPublish v id _ => id < s.head + s.N ∧ s.buf (id % s.N) = v
  | .rPub id idx g | .rCan id idx g => id < s.head + s.N ∧ idx = id % s.N ∧ g % s.N = idx
  | .pRecede _ _ _ w => w = true
  | .pLen id | .cRead id => id < s.tail
  | .cRelease id v => id < s.tail ∧ s.accepted[id]? = some v
  | .cChkTail h w => h ≤ s.head ∧ (w = false → h < s.tail)
  | _ => True

structure Shared (s : St) : Prop where
  fifo : Fifo s.N s.head s.tail s.buf s.accepted s.delivered
  hTE : s.tail ≤ s.enqTail
  hHD : s.head ≤ s.deqHead

theorem Inv.shared {s : St} (h : Inv s) : Shared s := { h with fifo := { h with } }

theorem Inv.loc {s : St} (h : Inv s) (t : Nat) : LocOK s (s.thr t) := by
  cases hl : s.thr t <;> simp only [LocOK]
  case pWrite _ id _ | rHold id | rRet id _ => exact h.pOk t id (by rw [hl]; rfl)
  case pPublish v id len => exact ⟨h.pOk t id (by rw [hl]; rfl), h.wrOk t v id len hl⟩
  case rPub id idx g => exact ⟨h.pOk t id (by rw [hl]; rfl), h.idxOk t id idx g (.inl hl)⟩
  case rCan id idx g => exact ⟨h.pOk t id (by rw [hl]; rfl), h.idxOk t id idx g (.inr hl)⟩
  case pRecede v id rsv w => exact h.recOk t v id rsv w hl
  case pLen id => exact h.lenOk t id hl
  case cRead id => exact h.cOk t id (by rw [hl]; rfl)
  case cRelease id v => exact ⟨h.cOk t id (by rw [hl]; rfl), h.relOk t id v hl⟩
  case cChkTail hd w => exact h.chkOk t hd w hl

theorem LocOK.pOk {s : St} {l : Loc} {k : Nat} (h : LocOK s l) (e : passedP l k) : k < s.head + s.N := by
  cases l <;> cases e <;> first | exact h | exact h.1

theorem LocOK.cOk {s : St} {l : Loc} {k : Nat} (h : LocOK s l) (e : passedC l k) : k < s.tail := by
  cases l <;> cases e <;> first | exact h | exact h.1

theorem Inv.producers {s : St} (h : Inv s) : Owns (fun t => pid (s.thr t)) s.tail s.enqTail :=
  (owns_iff_rel (fun t => holdsP_iff (s.thr t)) _ _).2 ⟨h.pRange, h.pUniq, h.pCover⟩

theorem Inv.consumers {s : St} (h : Inv s) : Owns (fun t => cid (s.thr t)) s.head s.deqHead :=
  (owns_iff_rel (fun t => holdsC_iff (s.thr t)) _ _).2 ⟨h.cRange, h.cUniq, h.cCover⟩

theorem Inv.of {s : St} (hs : Shared s) (hl : ∀ t, LocOK s (s.thr t))
    (hp : Owns (fun t => pid (s.thr t)) s.tail s.enqTail) (hc : Owns (fun t => cid (s.thr t)) s.head s.deqHead) :
    Inv s :=
  have ⟨pRange, pUniq, pCover⟩ := (owns_iff_rel (fun t => holdsP_iff (s.thr t)) _ _).1 hp
  have ⟨cRange, cUniq, cCover⟩ := (owns_iff_rel (fun t => holdsC_iff (s.thr t)) _ _).1 hc
  have loc {t : Nat} {l : Loc} (e : s.thr t = l) : LocOK s l := e ▸ hl t
  { hs.fifo, hs with
    pRange, pUniq, pCover, cRange, cUniq, cCover
    pOk := fun t _ e => (hl t).pOk e
    cOk := fun t _ e => (hl t).cOk e
    wrOk := fun _ _ _ _ e => (loc e).2
    relOk := fun _ _ _ e => (loc e).2
    idxOk := fun _ _ _ _ e => e.elim (fun e => (loc e).2) fun e => (loc e).2
    chkOk := fun _ _ _ e => loc e
    recOk := fun _ _ _ _ _ e => loc e
    lenOk := fun _ _ e => loc e }

/-- the register facts survive whatever the other threads do to the shared state: the counters only grow, the history
    is only appended to, and (`hb`) nobody writes the slot of an admitted number somebody else holds -/
theorem LocOK.mono {s s' : St} {l : Loc} (h : LocOK s l) (hN : s'.N = s.N) (hh : s.head ≤ s'.head)
    (ht : s.tail ≤ s'.tail) (hb : ∀ id, passedP l id → s'.buf (id % s.N) = s.buf (id % s.N))
    (ha : ∀ (k v : Nat), s.accepted[k]? = some v → s'.accepted[k]? = some v) : LocOK s' l := by
  cases l <;> simp only [LocOK, hN] at h ⊢ <;> try omega
  case pPublish v id len => exact ⟨by omega, (hb id rfl).trans h.2⟩
  case cRelease id v => exact ⟨by omega, ha _ _ h.2⟩
  case cChkTail hd w => exact ⟨by omega, fun e => by have := h.2 e; omega⟩

theorem hold_setThr (f : Loc → Option Nat) (s : St) (t : Nat) (l : Loc) :
    (fun u => f ((setThr s t l).thr u)) = setHold (fun u => f (s.thr u)) t (f l) := by
  funext u; simp only [thr_setThr, setHold]; split <;> rfl

/-! ## what a step has to show

A step of thread `t` leads from `s` to `setThr sh t l`: a new shared state `sh` (`Grows s sh`) and a new location `l`.
`Inv.after` asks for `Shared sh`, the register facts of `l`, and the two `Owns`; the other threads' register facts
follow by `LocOK.mono`.  Its instances for the shapes that occur more than once: `claims` (a claim counter and what `t`
holds change: a claim at `pFetch`, `cFetch`, or a give-back at a recede or cancel), `move` (nothing shared changes, the
thread keeps its numbers), `publish` (the holder of `tail` passes it on). -/

/-- what a step may do to the shared state (the claim counters and `delivered` are free); every field defaults to
    "unchanged", an instance names what the step moves -/
structure Grows (s sh : St) : Prop where
  thr : sh.thr = s.thr := by rfl
  buf : sh.buf = s.buf := by rfl
  N : sh.N = s.N := by rfl
  head : s.head ≤ sh.head := by exact Nat.le_refl _
  tail : s.tail ≤ sh.tail := by exact Nat.le_refl _
  acc : ∀ (k v : Nat), s.accepted[k]? = some v → sh.accepted[k]? = some v := by exact fun _ _ e => e

theorem Inv.after {s sh : St} {t : Nat} {l : Loc} (h : Inv s) (g : Grows s sh) (hs : Shared sh) (hl : LocOK sh l)
    (hp : Owns (setHold (fun u => pid (s.thr u)) t (pid l)) sh.tail sh.enqTail)
    (hc : Owns (setHold (fun u => cid (s.thr u)) t (cid l)) sh.head sh.deqHead) : Inv (setThr sh t l) := by
  refine Inv.of { hs with } (fun u => ?_) ?_ ?_
  · rw [thr_setThr]; split
    · exact hl.mono rfl (Nat.le_refl _) (Nat.le_refl _) (fun _ _ => rfl) (fun _ _ e => e)
    · rw [g.thr]
      exact (h.loc u).mono (s' := setThr sh t l) g.N g.head g.tail (fun _ _ => congrFun g.buf _) g.acc
  · rw [hold_setThr pid, g.thr]; exact hp
  · rw [hold_setThr cid, g.thr]; exact hc

theorem Inv.claims {s : St} (h : Inv s) {t e d : Nat} {l : Loc} (hl : LocOK s l) (hTE : s.tail ≤ e) (hHD : s.head ≤ d)
    (hp : Owns (setHold (fun u => pid (s.thr u)) t (pid l)) s.tail e)
    (hc : Owns (setHold (fun u => cid (s.thr u)) t (cid l)) s.head d) :
    Inv (setThr { s with enqTail := e, deqHead := d } t l) :=
  h.after {} { h.shared with hTE := hTE, hHD := hHD } hl hp hc

theorem Inv.move {s : St} (h : Inv s) {t : Nat} {l₀ l : Loc} (ht : s.thr t = l₀) (hp : pid l₀ = pid l)
    (hc : cid l₀ = cid l) (hl : LocOK s l) : Inv (setThr s t l) :=
  h.claims hl h.hTE h.hHD (h.producers.keep (ht ▸ hp)) (h.consumers.keep (ht ▸ hc))

theorem Inv.publish {s : St} (h : Inv s) {t v : Nat} {l : Loc} (ht : pid (s.thr t) = some s.tail)
    (hadm : s.tail < s.head + s.N) (hv : s.buf (s.tail % s.N) = v) (hp : pid l = none) (hc : cid (s.thr t) = cid l)
    (hl : LocOK (enqSt s v) l) : Inv (setThr (enqSt s v) t l) :=
  h.after { tail := Nat.le_succ _, acc := fun _ _ e => getElem?_append_of_some e }
    { h.shared with fifo := hv ▸ h.shared.fifo.publish hadm, hTE := (h.producers.range t _ ht).2 } hl
    (hp ▸ h.producers.pass ht) (h.consumers.keep hc)

/-! ## what the invariant says about a thread that holds an admitted sequence number -/

theorem Inv.passedP_window {s : St} {t k : Nat} (h : Inv s) (hp : passedP (s.thr t) k) :
    s.head ≤ s.tail ∧ s.tail ≤ k ∧ k < s.enqTail ∧ k < s.head + s.N :=
  ⟨h.hHT, (h.pRange t k (passedP_holdsP hp)).1, (h.pRange t k (passedP_holdsP hp)).2, h.pOk t k hp⟩

/-- it is the holder's turn to publish as soon as `tail` reaches its slot index, whatever the lap -/
theorem Inv.turn_of_slot {s : St} {t k : Nat} (h : Inv s) (hp : passedP (s.thr t) k) (e : s.tail % s.N = k % s.N) :
    s.tail = k := by
  have := h.passedP_window hp; have := h.hTN; have := h.npos
  exact eq_of_mod_eq_of_lt_add e (by omega) (by omega)

def AllAdmitted (s : St) : Prop := ∀ u k, holdsP (s.thr u) k → passedP (s.thr u) k

/-- the mirror image at the other end, when every holder is admitted: the newest claim is the holder's own as soon as it
    has its slot index -/
theorem Inv.last_of_slot {s : St} {t k g : Nat} (h : Inv s) (hadm : AllAdmitted s)
    (hp : passedP (s.thr t) k) (he : s.enqTail = g + 1) (e : g % s.N = k % s.N) : g = k := by
  have := h.passedP_window hp
  obtain ⟨u, hu⟩ := h.pCover g (by omega) (by omega)
  have := h.passedP_window (hadm u g hu)
  exact eq_of_mod_eq_of_lt_add e (by omega) (by omega)

theorem Inv.slot_ne {s : St} {t u k k' : Nat} (h : Inv s) (hp : passedP (s.thr t) k) (hq : passedP (s.thr u) k')
    (hne : t ≠ u) : k % s.N ≠ k' % s.N := fun e => by
  have := h.passedP_window hp; have := h.passedP_window hq
  have := eq_of_mod_eq_of_lt_add e (by omega) (by omega)
  exact hne (h.pUniq t u k (passedP_holdsP hp) (this ▸ passedP_holdsP hq))

/-! ## preservation -/

/-- the holder of an admitted sequence number writes its slot (`hl` fails only at the publication CAS, where `wrOk` pins
    the slot) -/
theorem Inv.write {s : St} (h : Inv s) {t id : Nat} (v : Nat) (hp : passedP (s.thr t) id)
    (hl : LocOK (setBuf s (id % s.N) v) (s.thr t)) : Inv (setBuf s (id % s.N) v) := by
  refine Inv.of { h with fifo := h.shared.fifo.write (h.pRange t id (passedP_holdsP hp)).1 (h.pOk t id hp) v }
    (fun u => ?_) h.producers h.consumers
  by_cases hut : u = t
  · exact hut ▸ hl
  · exact (h.loc u).mono rfl (Nat.le_refl _) (Nat.le_refl _)
      (fun k hk => by simp only [buf_setBuf, h.slot_ne hk hp hut, if_false]) (fun _ _ e => e)

theorem rPub_success {s : St} (h : Inv s) {t id idx g : Nat} (ht : s.thr t = .rPub id idx g) (he : s.tail = g) :
    g = id ∧ idx = id % s.N ∧
    step s t = setThr (enqSt s (s.buf idx)) t (.rLen g) := by
  have ⟨e1, e2⟩ := h.idxOk t id idx g (.inl ht)
  exact ⟨he ▸ h.turn_of_slot (t := t) (by rw [ht]; rfl) (by rw [he, e2, e1]), e1,
    by simp only [step, ht, enqSt, he, if_true]⟩

/-- if `a` is the step of a cancel CAS that succeeds (`enqTail = g + 1`), the guess `g` is the caller's own sequence
    number.  Every other transition preserves `Inv` unconditionally; this one does not (`cancel_steals`). -/
def CanExact (s : St) (a : Act) : Prop :=
  ∀ t id idx g, a = .step t → s.thr t = .rCan id idx g → s.enqTail = g + 1 → g = id

theorem inv_step (s : St) (t : Nat) (h : Inv s) (hex : CanExact s (.step t)) : Inv (step s t) := by
  have hs := h.shared
  have hl := h.loc t
  cases ht : s.thr t <;> rw [ht] at hl <;> simp only [step, ht, LocOK] at hl ⊢
  -- `hp : pid (s.thr t) = pid (.pFetch v rsv)`, say, serves as `pid (s.thr t) = none`: `pid` unfolds on the constructor
  all_goals (have hp := congrArg pid ht; have hc := congrArg cid ht)
  case idle | done | rHold | rRet => exact h
  case pFetch v rsv =>
    exact h.claims trivial (Nat.le_succ_of_le hs.hTE) hs.hHD (h.producers.claim hs.hTE hp)
      (h.consumers.keep hc)
  case pLoadHead v id rsv =>
    have := h.producers.range t id hp; have := hs.fifo.npos
    split
    · split <;> exact h.move ht rfl rfl (show id < _ by omega)
    · exact h.move ht rfl rfl (decide_eq_true (by omega))
  case pRecede v id rsv w =>
    split
    next he =>
      exact h.claims trivial (h.producers.range t id hp).1 hs.hHD (h.producers.giveBack hp he)
        (h.consumers.keep hc)
    next => exact h.move ht rfl rfl trivial
  case pWrite v id len =>
    exact (h.write v (by rw [ht]; rfl) (by rw [ht]; exact hl)).move ht rfl rfl ⟨hl, by simp⟩
  case pPublish v id len =>
    split
    next he => subst he; exact h.publish hp hl.1 hl.2 rfl hc (Nat.lt_succ_self _)
    next => exact h
  case rPub id idx g =>
    split
    next he =>
      obtain ⟨rfl, rfl, -⟩ := rPub_success h ht he
      subst he
      exact h.publish hp hl.1 rfl rfl hc trivial
    next =>
      split
      · exact h.move ht rfl rfl ⟨hl.1, hl.2.1, by rw [hl.2.1]; exact U32.reguess_mod⟩
      · exact h.move ht rfl rfl hl.1
  case rCan id idx g =>
    split
    next he =>
      obtain rfl := hex t id idx g rfl ht he
      exact h.claims trivial (h.producers.range t g hp).1 hs.hHD (h.producers.giveBack hp he)
        (h.consumers.keep hc)
    next =>
      split
      · exact h.move ht rfl rfl ⟨hl.1, hl.2.1, by rw [hl.2.1]; exact U32.reguess_mod⟩
      · exact h.move ht rfl rfl hl.1
  case cFetch =>
    exact h.claims trivial hs.hTE (Nat.le_succ_of_le hs.hHD) (h.producers.keep hp)
      (h.consumers.claim hs.hHD hc)
  case cLoadTail id =>
    split
    next hlt => exact h.move ht rfl rfl hlt
    next => exact h.move ht rfl rfl trivial
  case cRecede id =>
    split
    next he =>
      exact h.claims trivial hs.hTE (h.consumers.range t id hc).1 (h.producers.keep hp)
        (h.consumers.giveBack hc he)
    next => exact h.move ht rfl rfl trivial
  case cChkHead =>
    exact h.move ht rfl rfl ⟨Nat.le_refl _, fun e => by have := hs.fifo.hHT; have := of_decide_eq_false e; omega⟩
  case cRead id =>
    exact h.move ht rfl rfl ⟨hl, hs.fifo.bufOk id (h.consumers.range t id hc).1 hl⟩
  case cRelease id v =>
    have me := h.consumers.range t id hc
    split
    next he =>
      subst he
      exact h.after { head := Nat.le_succ _ } { hs with fifo := hs.fifo.consume hl.1 hl.2 t, hHD := me.2 } trivial
        (h.producers.keep hp) (h.consumers.pass hc)
    next => exact h
  case cChkTail hd w => split <;> exact h.move ht rfl rfl trivial
  case pLen | rLen | lLen | lLenH => exact h.move ht rfl rfl trivial

theorem inv_init (n : Nat) (h : 0 < n) : Inv (init n) := by
  constructor <;> simp [init, holdsP, holdsC, passedP, passedC, h]

theorem inv_apply (s : St) (a : Act) (h : Inv s) (hex : CanExact s a) : Inv (apply s a) := by
  cases a <;> simp only [apply]
  case step t => exact inv_step s t h hex
  case send t _ | recv t | len t | reserve t =>
    split
    next ht => exact h.move ht rfl rfl trivial
    next => exact h
  case fill t v =>
    split
    next id ht => exact h.write v (by rw [ht]; rfl) (by have := h.loc t; rwa [ht] at this ⊢)
    next => exact h
  case pubIdx t | canIdx t =>
    split
    next id ht => exact h.move ht rfl rfl ⟨by have := h.loc t; rwa [ht] at this, rfl, Nat.mod_mod _ _⟩
    next => exact h
  case ack t =>
    split
    next r ht => exact h.move ht rfl rfl trivial
    next id r ht => exact h.move ht rfl rfl (by have := h.loc t; rwa [ht] at this)
    next => exact h

/-- every successful index-based cancel CAS along the run hits the caller's own sequence number -/
def RunOk (s : St) : List Act → Prop
  | [] => True
  | a :: as => CanExact s a ∧ RunOk (apply s a) as

@[simp] theorem run_nil (s : St) : run s [] = s := rfl
@[simp] theorem run_cons (s : St) (a : Act) (as : List Act) : run s (a :: as) = run (apply s a) as := rfl
theorem run_append (s : St) (as bs : List Act) : run s (as ++ bs) = run (run s as) bs := by
  simp [run, List.foldl_append]

theorem runOk_append (s : St) (as bs : List Act) : RunOk s (as ++ bs) ↔ RunOk s as ∧ RunOk (run s as) bs := by
  induction as generalizing s with
  | nil => simp [RunOk]
  | cons a as ih => simp [RunOk, ih, and_assoc]

theorem inv_run (s : St) (as : List Act) (h : Inv s) (hok : RunOk s as) : Inv (run s as) :=
  foldl_of_ok (ok := RunOk) (fun s a _ h hok => ⟨inv_apply s a h hok.1, hok.2⟩) as s h hok

def ReachableX (n : Nat) (s : St) : Prop := ∃ as, RunOk (init n) as ∧ s = run (init n) as

theorem ReachableX.reachable {n : Nat} {s : St} (h : ReachableX n s) : Reachable n s := by
  obtain ⟨as, _, e⟩ := h; exact ⟨as, e⟩

theorem reachable_inv {n : Nat} {s : St} (hn : 0 < n) (h : ReachableX n s) : Inv s := by
  obtain ⟨as, hok, rfl⟩ := h
  exact inv_run _ _ (inv_init n hn) hok

theorem ReachableX.init (n : Nat) : ReachableX n (init n) := ⟨[], trivial, rfl⟩

theorem ReachableX.run {n : Nat} {s : St} (h : ReachableX n s) (as : List Act) (hok : RunOk s as) :
    ReachableX n (run s as) := by
  obtain ⟨bs, hb, rfl⟩ := h
  exact ⟨bs ++ as, (runOk_append _ bs as).2 ⟨hb, hok⟩, (run_append _ bs as).symm⟩

theorem ReachableX.apply {n : Nat} {s : St} (h : ReachableX n s) (a : Act) (hex : CanExact s a) :
    ReachableX n (apply s a) :=
  h.run [a] ⟨hex, trivial⟩

/-! ## an action moves its own thread only -/

def Act.thread : Act → Nat
  | .send t _ | .recv t | .len t | .reserve t | .fill t _ | .pubIdx t | .canIdx t | .step t | .ack t => t

theorem step_thr_ne (s : St) (t u : Nat) (h : u ≠ t) : (step s t).thr u = s.thr u := by
  unfold step
  split <;> (repeat' split) <;> simp [h]

theorem apply_thr_ne (s : St) (a : Act) (u : Nat) (h : u ≠ a.thread) : (apply s a).thr u = s.thr u := by
  cases a <;> simp only [Act.thread] at h
  case step t => exact step_thr_ne s t u h
  all_goals (simp only [apply]; split <;> simp [h])

inductive Enters (N t : Nat) : Act → Loc → Loc → Prop
  | send (v : Nat) : Enters N t (.send t v) .idle (.pFetch v false)
  | recv : Enters N t (.recv t) .idle .cFetch
  | len : Enters N t (.len t) .idle .lLen
  | reserve : Enters N t (.reserve t) .idle (.pFetch 0 true)
  | pubIdx (id : Nat) : Enters N t (.pubIdx t) (.rHold id) (.rPub id (id % N) (id % N))
  | canIdx (id : Nat) : Enters N t (.canIdx t) (.rHold id) (.rCan id (id % N) (id % N))
  | ackDone (r : Res) : Enters N t (.ack t) (.done r) .idle
  | ackRet (id : Nat) (r : Res) : Enters N t (.ack t) (.rRet id r) (.rHold id)

/-- where a thread found at a program point after an action comes from: read off `Enters` by `cases` -/
theorem apply_thr (s : St) (a : Act) (u : Nat) :
    (apply s a).thr u = s.thr u ∨ a = .step u ∨ Enters s.N u a (s.thr u) ((apply s a).thr u) := by
  by_cases hu : u = a.thread
  · cases a <;> simp only [Act.thread] at hu <;> subst hu
    case step => exact .inr (.inl rfl)
    all_goals (simp only [apply]; split) <;>
      first | exact .inl rfl | (refine .inr (.inr ?_); rw [thr_setThr_self]; simp only [*]; constructor)
  · exact .inl (apply_thr_ne s a u hu)

/-- A thread found at `l` after its own step was at `l` already, or at the program point and under the condition the `match`
    gives.  The `match` speaks of the results, `cChkTail`, `rPub` and `rCan` (no step enters these two: a re-guess stays);
    `generalizing := false`: else it abstracts `h`. -/
theorem step_origin (s : St) (t : Nat) {l : Loc} (h : (step s t).thr t = l) :
    s.thr t = l ∨
    match (generalizing := false) l with
    | .done .full => ∃ v id rsv w, s.thr t = .pRecede v id rsv w ∧ s.enqTail = id + 1
    | .done (.sent n) => ∃ id, s.thr t = .pLen id ∧ n = max 1 (id + 1 - s.head)
    | .done (.pubIdx (some n)) => ∃ g, s.thr t = .rLen g ∧ n = max 1 (U32.wsub (U32.wrap g) (U32.wrap s.head))
    | .done (.canIdx true) => ∃ id idx g, s.thr t = .rCan id idx g ∧ s.enqTail = g + 1
    | .done .empty => ∃ hh w, s.thr t = .cChkTail hh w ∧ s.tail = hh
    | .done (.got v) => ∃ id, s.thr t = .cRelease id v ∧ s.head = id
    | .done (.len n) => ∃ tl, s.thr t = .lLenH tl ∧ n = U32.wsub (U32.wrap tl) (U32.wrap s.head)
    | .done _ => False
    | .cChkTail hh w => s.thr t = .cChkHead ∧ hh = s.head ∧ w = decide (s.head = s.tail)
    | .rPub id idx _ => ∃ g, s.thr t = .rPub id idx g
    | .rCan id idx _ => ∃ g, s.thr t = .rCan id idx g
    | _ => True := by
  cases hl : s.thr t <;> simp only [step, hl] at h <;> (repeat' split at h) <;>
    (try simp only [thr_setThr, ↓reduceIte, hl] at h) <;>
    subst h <;> simp [*]

theorem run_thr_ne (s : St) (as : List Act) (u : Nat) (h : ∀ a ∈ as, a.thread ≠ u) : (run s as).thr u = s.thr u := by
  induction as generalizing s with
  | nil => rfl
  | cons a as ih => rw [run_cons, ih _ fun b hb => h b (.tail _ hb), apply_thr_ne s a u (h a (.head _)).symm]

/-! ## cancel-free executions -/

def NoCan (s : St) : Prop := ∀ t id idx g, s.thr t ≠ .rCan id idx g

def NoCancel (as : List Act) : Prop := ∀ t, Act.canIdx t ∉ as

theorem canExact_of_noCan {s : St} (h : NoCan s) (a : Act) : CanExact s a :=
  fun t id idx g _ ht _ => absurd ht (h t id idx g)

theorem canExact_of_not_step {s : St} {a : Act} (h : ∀ t, a ≠ .step t) : CanExact s a :=
  fun t _ _ _ e _ _ => absurd e (h t)

theorem noCan_apply (s : St) (a : Act) (h : NoCan s) (ha : ∀ t, a ≠ .canIdx t) : NoCan (apply s a) := by
  intro u id idx g e
  rcases apply_thr s a u with e' | rfl | he
  · exact h u id idx g (e' ▸ e)
  · exact (step_origin s u e).elim (h u id idx g) fun ⟨_, e'⟩ => h u _ _ _ e'
  · rw [e] at he; generalize s.thr u = l₀ at he; cases he; exact ha u rfl

theorem runOk_of_noCancel (s : St) (as : List Act) (h : NoCan s) (hc : NoCancel as) : RunOk s as := by
  induction as generalizing s with
  | nil => trivial
  | cons a as ih =>
    refine ⟨canExact_of_noCan h a, ih _ (noCan_apply s a h ?_) ?_⟩
    · intro t e; exact hc t (by simp [e])
    · intro t ht; exact hc t (by simp [ht])

theorem noCan_of_idle (s : St) (hid : ∀ u, s.thr u = .idle) : NoCan s := by
  intro t id idx g; simp [hid t]

theorem reachableX_of_noCancel (n : Nat) (as : List Act) (hc : NoCancel as) : ReachableX n (run (init n) as) :=
  ⟨as, runOk_of_noCancel _ _ (noCan_of_idle _ fun _ => rfl) hc, rfl⟩

/-- the cancel is exact when every producer-side holder is admitted, i.e. no concurrent `send` / `reserve` is between its
    `fetch_add` and its admission or recede (producer-side calls are sequential: the scope of C08) -/
theorem canExact_of_allAdmitted (s : St) (a : Act) (h : Inv s) (hadm : AllAdmitted s) : CanExact s a := by
  intro t id idx g _ ht he
  have ⟨e1, e2⟩ := h.idxOk t id idx g (.inr ht)
  exact h.last_of_slot hadm (t := t) (by rw [ht]; rfl) he (e2.trans e1)

/-! ## the defect: without the side condition the invariant does NOT hold -/

/-- `N = 2`: thread 0 reserves (id 0), thread 1 claims id 1, thread 2 claims id 2 and finds the ring full; thread 0
    cancels by index (Rust `try_unleak_slot_index_internal`): its re-guess `0 + lap(enqTail-1)·N = 2 = enqTail - 1` makes
    the CAS succeed, i.e. it removes the claim of thread 2 (still parked before its own recede) instead of its own.
    Nobody holds id 0 afterwards: `tail` can never pass it. -/
def stealRun : List Act :=
  [.reserve 0, .step 0, .step 0, .ack 0, .send 1 7, .step 1, .send 2 8, .step 2, .step 2, .canIdx 0, .step 0, .step 0]

theorem cancel_steals :
    let s := run (init 2) stealRun
    Reachable 2 s ∧ s.thr 0 = .done (.canIdx true) ∧ s.thr 2 = .pRecede 8 2 false true ∧ s.tail = 0 ∧ s.enqTail = 2
      ∧ (∀ t, ¬ holdsP (s.thr t) 0) ∧ ¬ Inv s := by
  intro s
  have h0 : s.thr 0 = .done (.canIdx true) := by decide
  have h1 : s.thr 1 = .pLoadHead 7 1 false := by decide
  have h2 : s.thr 2 = .pRecede 8 2 false true := by decide
  have ht : s.tail = 0 := by decide
  have he : s.enqTail = 2 := by decide
  refine ⟨⟨stealRun, rfl⟩, h0, h2, ht, he, fun t => ?_, fun hi => ?_⟩
  · by_cases hact : t = 0 ∨ t = 1 ∨ t = 2
    · rcases hact with rfl | rfl | rfl <;> simp [h0, h1, h2, holdsP]
    · rw [show s.thr t = .idle from run_thr_ne _ _ t (by simp [stealRun, Act.thread]; omega)]
      exact id
  · have := (hi.pRange 2 2 (by simp [h2, holdsP])).2
    omega

end Mutiny.Ring

#print axioms Mutiny.Ring.reachable_inv
#print axioms Mutiny.Ring.cancel_steals
#print axioms Mutiny.Ring.canExact_of_allAdmitted
