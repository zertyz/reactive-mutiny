import Mutiny.Model.CancelAll
import Mutiny.Model.CancelAllLock

/-!
# `cancel_all_streams()`: the entries a walk over `used_streams` visits

`walkFrom used mx i` one entry at a time (`walkFrom_stop` / `walkFrom_go`) and on a list that is in sync with the
bookkeeping (`walkFrom_plan`); the unlocked walker of `Model/CancelAll.lean` run to completion over a list that nobody
rewrites meanwhile (`walk`).
-/

namespace Mutiny.CancelAllLock

theorem walkFrom_stop {used : List Nat} {mx i : Nat} (h : i ≥ mx ∨ used.getD i mx = mx) :
    walkFrom used mx i = [] := by
  unfold walkFrom
  rcases h with h | h
  · rw [Nat.sub_eq_zero_of_le h]; rfl
  · rw [List.getD_eq_getElem?_getD, ← List.head?_drop] at h
    cases hd : used.drop i with
    | nil => simp
    | cons y r => cases hk : mx - i <;> simp_all

theorem walkFrom_go {used : List Nat} {mx i : Nat} (h : ¬ (i ≥ mx ∨ used.getD i mx = mx)) :
    walkFrom used mx i = used.getD i mx :: walkFrom used mx (i + 1) := by
  obtain ⟨h1, h2⟩ := not_or.1 h
  unfold walkFrom
  rw [List.getD_eq_getElem?_getD, ← List.head?_drop] at h2 ⊢
  rw [← List.tail_drop, show mx - i = (mx - (i + 1)) + 1 by omega]
  cases hd : used.drop i with
  | nil => simp [hd] at h2
  | cons y r => simp_all [List.take_succ_cons]

/-- the list `ids ++ sentinels` is walked up to the first sentinel -/
theorem walkFrom_plan (ids : List Nat) (mx : Nat) (hne : ∀ x ∈ ids, x ≠ mx) (hlen : ids.length ≤ mx) :
    walkFrom (ids ++ List.replicate (mx - ids.length) mx) mx 0 = ids := by
  unfold walkFrom
  rw [List.drop_zero, Nat.sub_zero, List.take_of_length_le (by simp; omega),
    List.takeWhile_append_of_pos (by simpa using hne), List.takeWhile_replicate]
  simp

end Mutiny.CancelAllLock

namespace Mutiny.CancelAll
open CancelAllLock (walkFrom walkFrom_stop walkFrom_go)

theorem run_append (s : St) (as bs : List Act) : run s (as ++ bs) = run (run s as) bs := by
  simp [run, List.foldl_append]

/-- `s'` is `s` after a completed walk that told the streams `l` to end, in that order, and touched no other flag -/
def Walked (s s' : St) (l : List Nat) : Prop :=
  s'.w = .done ∧ s'.cancelled = s.cancelled ++ l ∧ ∀ x, s'.m.keep x = if x ∈ l then false else s.m.keep x

/-- the walk from entry `i` over a list nobody rewrites meanwhile, for whatever the list holds -/
theorem walk : ∀ (k : Nat) (s : St) (i : Nat), s.w = .read i → (walkFrom s.m.used s.m.MAX i).length = k →
    Walked s (run s (List.replicate (2 * k + 1) .wstep)) (walkFrom s.m.used s.m.MAX i)
  | 0, s, i, hw, hk => by
    have hnil := List.eq_nil_of_length_eq_zero hk
    have hc : i ≥ s.m.MAX ∨ s.m.used.getD i s.m.MAX = s.m.MAX := Decidable.byContradiction fun hn => by
      rw [walkFrom_go hn] at hnil; cases hnil
    rw [hnil]
    show Walked s (apply s .wstep) []
    simp only [apply, hw, if_pos hc]
    exact ⟨rfl, (List.append_nil _).symm, fun _ => by simp⟩
  | k + 1, s, i, hw, hk => by
    have hc : ¬ (i ≥ s.m.MAX ∨ s.m.used.getD i s.m.MAX = s.m.MAX) := fun hc => by
      rw [walkFrom_stop hc] at hk; cases hk
    rw [walkFrom_go hc] at hk ⊢
    rw [show 2 * (k + 1) + 1 = (2 * k + 1) + 1 + 1 by omega, List.replicate_succ, List.replicate_succ]
    show Walked s (run (apply (apply s .wstep) .wstep) _) _
    rw [show apply s .wstep = { s with w := .cancel i (s.m.used.getD i s.m.MAX) } by simp only [apply, hw, if_neg hc]]
    obtain ⟨a, b, c⟩ := walk k (apply { s with w := .cancel i (s.m.used.getD i s.m.MAX) } .wstep) (i + 1) rfl
      (Nat.succ.inj hk)
    refine ⟨a, b.trans (List.append_assoc ..), fun y => (c y).trans ?_⟩
    show (if y ∈ walkFrom s.m.used s.m.MAX (i + 1) then false
      else if y = s.m.used.getD i s.m.MAX then false else s.m.keep y) = _
    by_cases h1 : y = s.m.used.getD i s.m.MAX <;> by_cases h2 : y ∈ walkFrom s.m.used s.m.MAX (i + 1) <;> simp [h1, h2]

end Mutiny.CancelAll
