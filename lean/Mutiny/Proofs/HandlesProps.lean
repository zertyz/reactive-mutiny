import Mutiny.Proofs.HandlesInv

/-!
# Consequences of the `Handles` invariant, in the vocabulary of the property theorems (C05, C13, C14)

For the invariant a control block owns its slot until the payload's destructor has run (`Owns`, a fact about the data
alone); its slot is in transit (`transSlot`, `transLoc`) only after that.  The property theorems draw the line one step
earlier, where `dealloc_id` is entered: `Owning` is `Owns` without the block of a thread at `dDestroy` (`owns_iff`),
and `inTransitOf` is `transSlot` plus the slot of that block.  `inTransit_ok` and `pool_census` re-sort `LocOK` and
`Inv.count` accordingly.
-/

namespace Mutiny.Handles

/-- control block `i` owns its pool slot: its counter is positive, or the thread that saw it reach 0 has not yet
    entered `dealloc_id` (`oa.drop.dealloc` pending) -/
def Owning (s : St) (i : Nat) : Prop :=
  i < s.cbs.length ∧ ((getCB s i).rc > 0 ∨ ∃ t, s.thr t = .dDealloc i)

/-- the slot a thread holds *in transit*: it is inside `dealloc_id` (destructor pending or running: `dDestroy`/`uDestroy`;
    destructor done, free-list push pending: `dRelease`/`uRelease`) -/
def inTransitOf (s : St) : Loc → Option Nat
  | .dDestroy i => some (getCB s i).id
  | .dRelease i => some (getCB s i).id
  | .uDestroy x => some x
  | .uRelease x => some x
  | _ => none

theorem owns_of_destroying {s : St} (h : Inv s) {t i : Nat} (ht : s.thr t = .dDestroy i) : Owns s i :=
  h.ddOwns t i (by rw [ht]; rfl)

theorem owns_iff {s : St} (h : Inv s) (i : Nat) : Owns s i ↔ (Owning s i ∨ ∃ t, s.thr t = .dDestroy i) := by
  constructor
  · intro ho
    by_cases hz : (getCB s i).rc = 0
    · obtain ⟨t, ht⟩ := h.ownRc i ho hz
      cases hl : s.thr t <;> simp [hl, ownTail] at ht
      case dDealloc => subst ht; exact Or.inl ⟨ho.lt, Or.inr ⟨t, hl⟩⟩
      case dDestroy => subst ht; exact Or.inr ⟨t, hl⟩
    · exact Or.inl ⟨ho.lt, Or.inl (Nat.pos_of_ne_zero hz)⟩
  · rintro (⟨_, hr | ⟨t, ht⟩⟩ | ⟨t, ht⟩)
    · exact h.rcOwns i hr
    · exact h.ddOwns t i (by simp [ht, ownTail])
    · exact owns_of_destroying h ht

theorem owns_of_owning {s : St} (h : Inv s) {i : Nat} (ho : Owning s i) : Owns s i :=
  (owns_iff h i).2 (Or.inl ho)

theorem not_owning_of_destroying {s : St} (h : Inv s) {t i : Nat} (ht : s.thr t = .dDestroy i) : ¬ Owning s i := by
  rintro ⟨_, hr | ⟨u, hu⟩⟩
  · have := (h.tailOk t i (by simp [ht, tailOf])).2.2; omega
  · obtain rfl := h.tailUniq t u i (by simp [ht, tailOf]) (by simp [hu, tailOf])
    rw [ht] at hu; cases hu

theorem inTransit_cases {s : St} {l : Loc} {x : Nat} (h : inTransitOf s l = some x) :
    (∃ i, l = .dDestroy i ∧ (getCB s i).id = x) ∨ transSlot s l = some x := by
  cases l <;> simp_all [inTransitOf, transSlot]

/-- a slot in transit is on nobody's books, a block at `dDestroy` no longer counting as owner -/
theorem inTransit_ok {s : St} (h : Inv s) {t x : Nat} (ht : inTransitOf s (s.thr t) = some x) :
    Unbooked s x (Owning s) := by
  rcases inTransit_cases ht with ⟨i, a, rfl⟩ | a
  · have ho := owns_of_destroying h a
    have ok := h.owner ho
    exact ⟨ok.lt, ok.free, ok.uniq, fun j hj e =>
      not_owning_of_destroying h a (h.ownInj j i (owns_of_owning h hj) ho e ▸ hj)⟩
  · have hx := (h.loc t).unbooked a
    exact ⟨hx.lt, hx.free, hx.uniq, fun j hj => hx.notOwned j (owns_of_owning h hj)⟩

theorem inTransit_inj {s : St} (h : Inv s) {t u x : Nat} (ht : inTransitOf s (s.thr t) = some x)
    (hu : inTransitOf s (s.thr u) = some x) : t = u := by
  -- a slot whose destructor is pending is still owned: nobody holds it in transit
  have dt {t u i} (a : s.thr t = .dDestroy i) (b : transSlot s (s.thr u) = some (getCB s i).id) : False :=
    ((h.loc u).unbooked b).notOwned i (owns_of_destroying h a) rfl
  rcases inTransit_cases ht with ⟨i, a, rfl⟩ | a <;> rcases inTransit_cases hu with ⟨j, b, e⟩ | b
  · obtain rfl := h.ownInj i j (owns_of_destroying h a) (owns_of_destroying h b) e.symm
    exact h.tailUniq t u i (by rw [a]; rfl) (by rw [b]; rfl)
  · exact (dt a b).elim
  · exact (dt b (e ▸ a)).elim
  · exact h.slotUniq t u x a b

theorem logged_once {s : St} (h : Inv s) {e : Nat × Nat × Nat} (he : e ∈ s.dropLog) :
    (s.dropLog.map (·.2.1)).count e.2.1 = 1 := by
  rw [h.logNodup.count, if_pos (List.mem_map.2 ⟨_, he, rfl⟩)]

/-- a held handle (alive, lent to a call, or announced) keeps the counter positive, hence the slot owned -/
theorem held_owning {s : St} (h : Inv s) {i : Nat}
    (hh : (getCB s i).live + (getCB s i).lent + (getCB s i).owed > 0) : Owning s i := by
  have := h.rcSum i
  have hr : (getCB s i).rc > 0 := by omega
  exact ⟨(h.rcOwns i hr).1, Or.inl hr⟩

/-- the calls in progress on control block `i` are exactly the `lent` handles -/
theorem census {s : St} (h : Inv s) (i : Nat) :
    ∃ ts : List Nat, ts.Nodup ∧ (∀ t, t ∈ ts ↔ pointOf (s.thr t) = some i) ∧
      (getCB s i).lent = ts.length ∧ (getCB s i).rc = (getCB s i).live + ts.length + (getCB s i).owed := by
  obtain ⟨ts, h1, h2, h3⟩ := h.lentCount i
  exact ⟨ts, h1, h2, h3.symm, h3 ▸ h.rcSum i⟩

theorem parked_le_lent {s : St} (h : Inv s) (i : Nat) (ts : List Nat) (hn : ts.Nodup)
    (hp : ∀ t ∈ ts, pointOf (s.thr t) = some i) : ts.length ≤ (getCB s i).lent := by
  obtain ⟨ps, _, h2, h3⟩ := h.lentCount i
  exact h3 ▸ hn.length_le_of_subset fun t ht => (h2 t).2 (hp t ht)

/-- distinct threads parked at control block `i` are at most `rc` many (`rc ≥` number of concurrent droppers) -/
theorem parked_le_rc {s : St} (h : Inv s) (i : Nat) (ts : List Nat) (hn : ts.Nodup)
    (hp : ∀ t ∈ ts, pointOf (s.thr t) = some i) : ts.length ≤ (getCB s i).rc := by
  have := parked_le_lent h i ts hn hp; have := h.rcSum i; omega

/-! ## counting the pool -/

/-- split data-level owners into `Owning` control blocks and the threads whose destructor run is pending -/
theorem split_destroying {s : St} (h : Inv s) : ∀ L : List Nat, L.Nodup → (∀ i ∈ L, Owns s i) →
    ∃ a b, Card (fun i => i ∈ L ∧ Owning s i) a ∧ Card (fun t => ∃ i, i ∈ L ∧ s.thr t = .dDestroy i) b ∧
      a + b = L.length
  | [], _, _ => ⟨0, 0, ⟨[], .nil, by simp, rfl⟩, ⟨[], .nil, by simp, rfl⟩, rfl⟩
  | a :: L, hn, ho => by
    obtain ⟨hna, hnL⟩ := List.nodup_cons.1 hn
    obtain ⟨n, m, c1, c2, e⟩ := split_destroying h L hnL fun i hi => ho i (List.mem_cons_of_mem _ hi)
    -- `a` goes to one side or the other; the thread that destroys it, if any, is one thread and destroys nothing else
    rcases (owns_iff h a).1 (ho a List.mem_cons_self) with hoa | ⟨u, hu⟩
    · have nd t : s.thr t ≠ .dDestroy a := fun e => not_owning_of_destroying h e hoa
      exact ⟨n + 1, m, c1.insert (fun hx => hna hx.1) fun i => by grind, c2.congr fun t => by grind, by simp; omega⟩
    · have hno := not_owning_of_destroying h hu
      have one t (ht : s.thr t = .dDestroy a) : t = u := h.tailUniq t u a (by rw [ht]; rfl) (by rw [hu]; rfl)
      exact ⟨n, m + 1, c1.congr fun i => by grind,
        c2.insert (k := u) (by rintro ⟨i, hi, hti⟩; rw [hu] at hti; cases hti; exact hna hi) fun t => by grind,
        by simp; omega⟩

/-- slot held in transit by thread `t` (0 when none) -/
def slotOf (s : St) (t : Nat) : Nat := (inTransitOf s (s.thr t)).getD 0

theorem inTransit_isSome_iff (s : St) (l : Loc) :
    (inTransitOf s l).isSome = true ↔ ((∃ i, l = .dDestroy i) ∨ transLoc l = true) := by
  cases l <;> simp [inTransitOf, transLoc]

/-- the census of `Inv.count`, with a thread about to run a destructor counted as "in transit" instead of its control
    block as "owning" -/
theorem pool_census {s : St} (h : Inv s) :
    ∃ own tr : List Nat, own.Nodup ∧ tr.Nodup ∧ (∀ i, i ∈ own ↔ Owning s i) ∧
      (∀ t, t ∈ tr ↔ (inTransitOf s (s.thr t)).isSome = true) ∧
      s.uniques.length + own.length + tr.length + s.free.length = s.N := by
  obtain ⟨_, _, ⟨own0, hn0, hm0, rfl⟩, ⟨tr0, hnt0, hmt0, rfl⟩, hc⟩ := h.count
  obtain ⟨_, _, ⟨own, h1, h3, rfl⟩, ⟨D, h2, h4, rfl⟩, h5⟩ := split_destroying h own0 hn0 fun i hi => (hm0 i).1 hi
  have hD t : t ∈ D ↔ ∃ i, s.thr t = .dDestroy i :=
    (h4 t).trans ⟨fun ⟨i, _, hi⟩ => ⟨i, hi⟩, fun ⟨i, hi⟩ => ⟨i, (hm0 i).2 (owns_of_destroying h hi), hi⟩⟩
  refine ⟨own, D ++ tr0, h1, List.nodup_append.2 ⟨h2, hnt0, fun x hx y hy e => ?_⟩,
    fun i => (h3 i).trans ⟨fun hi => hi.2, fun ho => ⟨(hm0 i).2 (owns_of_owning h ho), ho⟩⟩,
    fun t => by rw [List.mem_append, hD t, hmt0 t, inTransit_isSome_iff], by simp only [List.length_append]; omega⟩
  obtain ⟨i, hi⟩ := (hD x).1 hx
  have := (hmt0 x).1 (e ▸ hy); rw [hi] at this; cases this

/-- `pool_census` as a partition of `0 .. N-1` -/
theorem pool_partition {s : St} (h : Inv s) :
    ∃ own tr : List Nat, own.Nodup ∧ tr.Nodup ∧ (∀ i, i ∈ own ↔ Owning s i) ∧
      (∀ t, t ∈ tr ↔ (inTransitOf s (s.thr t)).isSome = true) ∧
      s.uniques.length + own.length + tr.length + s.free.length = s.N ∧
      (own.map (fun i => (getCB s i).id) ++ s.uniques ++ tr.map (slotOf s) ++ s.free).Perm (List.range s.N) := by
  obtain ⟨own, tr, h1, hntr, hown, htr, hcount⟩ := pool_census h
  have hslot t (ht : t ∈ tr) : inTransitOf s (s.thr t) = some (slotOf s t) := by
    obtain ⟨x, hx⟩ := Option.isSome_iff_exists.1 ((htr t).1 ht)
    rw [slotOf, hx]; rfl
  have hmapo : (own.map (fun i => (getCB s i).id)).Nodup := nodup_map h1 fun x hx y hy e =>
    h.ownInj x y (owns_of_owning h ((hown x).1 hx)) (owns_of_owning h ((hown y).1 hy)) e
  have hmapt : (tr.map (slotOf s)).Nodup := nodup_map hntr fun x hx y hy e =>
    inTransit_inj h (hslot x hx) (e ▸ hslot y hy)
  have ownS i (hi : i ∈ own) : OwnOK s i := h.owner (owns_of_owning h ((hown i).1 hi))
  have trS t (ht : t ∈ tr) : Unbooked s (slotOf s t) (Owning s) := inTransit_ok h (hslot t ht)
  -- the four lists are duplicate-free and pairwise disjoint, their entries below `N`, their lengths add up to `N`
  have hnd : (own.map (fun i => (getCB s i).id) ++ s.uniques ++ tr.map (slotOf s) ++ s.free).Nodup := by
    simp only [List.nodup_append, List.mem_append, List.mem_map]
    refine ⟨⟨⟨hmapo, h.uniqNodup, ?_⟩, hmapt, ?_⟩, h.freeNodup, ?_⟩
    · rintro _ ⟨i, hi, rfl⟩ _ hy rfl; exact (ownS i hi).uniq hy
    · rintro _ (⟨i, hi, rfl⟩ | hx) _ ⟨t, ht, rfl⟩ e
      · exact (trS t ht).notOwned i ((hown i).1 hi) e
      · exact (trS t ht).uniq (e ▸ hx)
    · rintro _ ((⟨i, hi, rfl⟩ | hx) | ⟨t, ht, rfl⟩) _ hy rfl
      · exact (ownS i hi).free hy
      · exact (h.unique hx).free hy
      · exact (trS t ht).free hy
  have hlt x (hx : x ∈ own.map (fun i => (getCB s i).id) ++ s.uniques ++ tr.map (slotOf s) ++ s.free) :
      x < s.N := by
    simp only [List.mem_append, List.mem_map] at hx
    rcases hx with ((⟨i, hi, rfl⟩ | hx) | ⟨t, ht, rfl⟩) | hx
    · exact (ownS i hi).lt
    · exact (h.unique hx).lt
    · exact (trS t ht).lt
    · exact h.freeLt x hx
  refine ⟨own, tr, h1, hntr, hown, htr, hcount, (List.perm_ext_iff_of_nodup hnd List.nodup_range).2 fun x =>
    ⟨fun hx => List.mem_range.2 (hlt x hx), fun hx => mem_of_nodup_of_length_eq hnd hlt ?_ (List.mem_range.1 hx)⟩⟩
  simp only [List.length_append, List.length_map]; omega

/-! ## what an action leaves alone (every state); the capacity of a reachable state -/

/-- `alive` changes only at a destructor step (`pa.dealloc.drop`) -/
theorem alive_step_of_ne (s : St) (t : Nat) (hd : ∀ i, s.thr t ≠ .dDestroy i) (hu : ∀ x, s.thr t ≠ .uDestroy x) :
    (step s t).alive = s.alive := by
  cases ht : s.thr t <;> simp only [step, ht] <;> (try split) <;>
    first | rfl | exact absurd ht (hd _) | exact absurd ht (hu _)

/-- `free` grows only at a release step (`pa.dealloc.free`) -/
theorem free_step_of_ne (s : St) (t : Nat) (hd : ∀ i, s.thr t ≠ .dRelease i) (hu : ∀ x, s.thr t ≠ .uRelease x) :
    (step s t).free = s.free := by
  cases ht : s.thr t <;> simp only [step, ht] <;> (try split) <;>
    first | rfl | exact absurd ht (hd _) | exact absurd ht (hu _)

/-- What every action leaves alone (the default of each field): the capacity; a slot that is not free (only the
    allocation of that very id writes it); the destructor log, but for the entry of its own slot at a destructor step
    (`pa.dealloc.drop`; `log` is the statement of `c14_droplog_only`). -/
structure Untouched (s : St) (a : Act) (s' : St) : Prop where
  N : s'.N = s.N := by rfl
  slot : ∀ id, id ∉ s.free → s'.slot id = s.slot id := by exact fun _ _ => rfl
  log : s'.dropLog = s.dropLog ∨
    (∃ t i, a = .step t ∧ s.thr t = .dDestroy i ∧
      s'.dropLog = s.dropLog ++ [((getCB s i).id, s.slotGen (getCB s i).id, s.slot (getCB s i).id)]) ∨
    ∃ t x, a = .step t ∧ s.thr t = .uDestroy x ∧ s'.dropLog = s.dropLog ++ [(x, s.slotGen x, s.slot x)] := by
      exact .inl rfl

theorem apply_untouched (s : St) (a : Act) : Untouched s a (apply s a) := by
  -- so that `apply` is unfolded once per case, in `e`
  generalize e : apply s a = s'
  cases a <;> simp only [apply] at e
  case step t =>
    cases ht : s.thr t <;> simp only [step, ht] at e <;> (try split at e) <;> subst e
    case dDestroy i => exact { log := .inr (.inl ⟨t, i, rfl, ht, rfl⟩) }
    case uDestroy x => exact { log := .inr (.inr ⟨t, x, rfl, ht, rfl⟩) }
    all_goals exact {}
  case newArc t v k | newUnique t v =>
    split at e
    · cases hf : s.free with
      | nil => rw [allocWrite_nil v hf] at e; subst e; exact {}
      | cons x rest =>
        rw [allocWrite_cons v hf] at e; subst e
        exact { slot := fun id h => if_neg (by rintro rfl; exact h (hf ▸ List.mem_cons_self)) }
    · subst e; exact {}
  all_goals split at e <;> subst e <;> exact {}

theorem reachable_N {n : Nat} {s : St} (hr : Reachable n s) : s.N = n := by
  obtain ⟨as, rfl⟩ := hr
  exact List.foldlRecOn as apply (motive := fun s => s.N = n) (b := init n) rfl fun s h a _ =>
    (apply_untouched s a).N.trans h

/-! ## the state transformers commute with `setThr`; two rewritings of one control block are one -/

theorem setThr_self {s : St} {t : Nat} {l : Loc} (h : s.thr t = l) : setThr s t l = s := by
  cases s; simp only [setThr, St.mk.injEq, true_and, and_true]; funext u; split <;> simp_all

theorem setThr_updCB (s : St) (i : Nat) (f : CB → CB) (t : Nat) (l : Loc) :
    setThr (updCB s i f) t l = updCB (setThr s t l) i f := rfl

theorem updCB_congr (s : St) (i : Nat) {f g : CB → CB} (e : f (getCB s i) = g (getCB s i)) :
    updCB s i f = updCB s i g := by
  suffices s.cbs.modify i f = s.cbs.modify i g by simp only [updCB, this]
  refine List.ext_getElem? fun j => ?_
  simp only [List.getElem?_modify]
  cases hc : s.cbs[j]? with
  | none => rfl
  | some c =>
    by_cases hj : i = j
    · subst hj
      have : getCB s i = c := by simp [getCB, List.getD_eq_getElem?_getD, hc]
      simp [← this, e]
    · simp [hj]

theorem updCB_updCB_eq {s : St} {i : Nat} {f g k : CB → CB} (e : g (f (getCB s i)) = k (getCB s i)) :
    updCB (updCB s i f) i g = updCB s i k :=
  (congrArg (fun l => { s with cbs := l }) (List.modify_modify_eq f g i s.cbs)).trans (updCB_congr s i e)

theorem updCB_self (s : St) (i : Nat) (f : CB → CB) (e : f (getCB s i) = getCB s i) : updCB s i f = s :=
  (updCB_congr s i (g := id) e).trans (congrArg (fun l => { s with cbs := l }) (List.modify_id i s.cbs))

theorem run_append (s : St) (as bs : List Act) : run s (as ++ bs) = run (run s as) bs := by
  simp [run, List.foldl_append]

theorem run_cons (s : St) (a : Act) (as : List Act) : run s (a :: as) = run (apply s a) as := rfl
theorem run_nil (s : St) : run s [] = s := rfl

/-! ## complete operations as single state transformers (for `c14_bulk`) -/

theorem step_clone_eq (s : St) (t i : Nat) :
    apply (setThr s t (.clone i)) (.step t) = setThr (updCB s i fun c =>
      { c with rc := c.rc + 1, lent := c.lent - 1, live := c.live + 2 }) t (.done (.arc i)) := by
  simp [apply, step, ← setThr_updCB, setThr_setThr]
theorem step_inc_eq (s : St) (t i k : Nat) :
    apply (setThr s t (.inc i k)) (.step t) = setThr (updCB s i fun c =>
      { c with rc := c.rc + k, lent := c.lent - 1, live := c.live + 1, owed := c.owed + k }) t (.done .unit) := by
  simp [apply, step, ← setThr_updCB, setThr_setThr]
theorem ack_done (s : St) (t : Nat) (r : Res) : apply (setThr s t (.done r)) (.ack t) = setThr s t .idle := by
  simp [apply, setThr_setThr]

theorem clone_complete (s : St) (t i : Nat) (ht : s.thr t = .idle) (hu : usable s i = true) :
    run s [.clone t i, .step t, .ack t] = updCB s i fun c => { c with rc := c.rc + 1, live := c.live + 1 } := by
  obtain ⟨hlen, hlive⟩ := usable_iff.1 hu
  simp only [run_cons, run_nil]
  have e1 : apply s (.clone t i) = setThr (lend s i) t (.clone i) := by simp [apply, ht, hu]
  rw [e1, step_clone_eq, ack_done]
  simp only [lend, setThr_updCB, setThr_self ht]
  exact updCB_updCB_eq (by dsimp only; grind)

theorem incRefs_complete (s : St) (t i k : Nat) (ht : s.thr t = .idle) (hu : usable s i = true) :
    run s [.incRefs t i k, .step t, .ack t] = updCB s i fun c => { c with rc := c.rc + k, owed := c.owed + k } := by
  obtain ⟨hlen, hlive⟩ := usable_iff.1 hu
  simp only [run_cons, run_nil]
  have e1 : apply s (.incRefs t i k) = setThr (lend s i) t (.inc i k) := by simp [apply, ht, hu]
  rw [e1, step_inc_eq, ack_done]
  simp only [lend, setThr_updCB, setThr_self ht]
  exact updCB_updCB_eq (by dsimp only; grind)

theorem rawCopy_complete (s : St) (t i : Nat) (ht : s.thr t = .idle) (hlen : i < s.cbs.length)
    (ho : (getCB s i).owed > 0) :
    run s [.rawCopy t i, .ack t] = updCB s i fun c => { c with owed := c.owed - 1, live := c.live + 1 } := by
  simp only [run_cons, run_nil]
  have e1 : apply s (.rawCopy t i) =
      setThr (updCB s i fun c => { c with owed := c.owed - 1, live := c.live + 1 }) t (.done (.arc i)) := by
    simp [apply, ht, hlen, ho]
  rw [e1, ack_done, setThr_updCB, setThr_self ht]

theorem rawCopy_loop (t i m : Nat) (s : St) (ht : s.thr t = .idle) (hlen : i < s.cbs.length)
    (ho : m ≤ (getCB s i).owed) :
    run s (List.replicate m [Act.rawCopy t i, Act.ack t]).flatten
      = updCB s i fun c => { c with owed := c.owed - m, live := c.live + m } := by
  induction m generalizing s with
  | zero => exact (updCB_self s i _ rfl).symm
  | succ m ih =>
    rw [List.replicate_succ, List.flatten_cons, run_append, rawCopy_complete s t i ht hlen (by omega)]
    rw [ih _ (by simpa using ht) (by simpa using hlen) (by rw [getCB_updCB]; simp [hlen]; omega)]
    apply updCB_updCB_eq
    dsimp only; grind

theorem clone_loop (t i m : Nat) (s : St) (ht : s.thr t = .idle) (hu : usable s i = true) :
    run s (List.replicate m [Act.clone t i, Act.step t, Act.ack t]).flatten
      = updCB s i fun c => { c with rc := c.rc + m, live := c.live + m } := by
  induction m generalizing s with
  | zero => exact (updCB_self s i _ rfl).symm
  | succ m ih =>
    have hu' := usable_iff.1 hu
    rw [List.replicate_succ, List.flatten_cons, run_append, clone_complete s t i ht hu]
    rw [ih _ (by simpa using ht) (by simp [usable, getCB_updCB, hu'.1])]
    apply updCB_updCB_eq
    dsimp only; grind

/-! ## FIFO reuse (C13) -/

theorem newUnique_eq {s : St} {t : Nat} (v : Nat) {x : Nat} {rest : List Nat} (ht : s.thr t = .idle)
    (hf : s.free = x :: rest) :
    apply s (.newUnique t v) = setThr (withUniques (allocSt s v x rest) (x :: s.uniques)) t (.done (.unique x)) := by
  simp only [apply, ht, if_true, allocWrite_cons v hf]; rfl

theorem newUnique_none {s : St} {t : Nat} (v : Nat) (ht : s.thr t = .idle) (hf : s.free = []) :
    apply s (.newUnique t v) = setThr s t (.done .none) := by
  simp only [apply, ht, if_true, allocWrite_nil v hf]

theorem newArc_eq {s : St} {t : Nat} (v : Nat) {k x : Nat} {rest : List Nat} (ht : s.thr t = .idle) (hk : k > 0)
    (hf : s.free = x :: rest) :
    apply s (.newArc t v k) =
      setThr (pushCB (allocSt s v x rest) (newCB x k v s.nextGen)) t (.done (.arc s.cbs.length)) := by
  simp only [apply, ht, hk, and_self, if_true, allocWrite_cons v hf]; rfl

theorem newArc_none {s : St} {t : Nat} (v : Nat) {k : Nat} (ht : s.thr t = .idle) (hk : k > 0) (hf : s.free = []) :
    apply s (.newArc t v k) = setThr s t (.done .none) := by
  simp only [apply, ht, hk, and_self, if_true, allocWrite_nil v hf]

theorem dropUnique_eq {s : St} {t id : Nat} (ht : s.thr t = .idle) (hm : id ∈ s.uniques) :
    apply s (.dropUnique t id) = setThr (withUniques s (s.uniques.erase id)) t (.uDestroy id) := by
  simp only [apply, ht, hm, and_self, if_true]; rfl

theorem intoArc_eq {s : St} {t id : Nat} (ht : s.thr t = .idle) (hm : id ∈ s.uniques) :
    apply s (.intoArc t id) = setThr (pushCB (withUniques s (s.uniques.erase id))
      (newCB id 1 (s.slot id) (s.slotGen id))) t (.done (.arc s.cbs.length)) := by
  simp only [apply, ht, hm, and_self, if_true]; rfl

theorem step_uDestroy_eq (s : St) (t x : Nat) :
    apply (setThr s t (.uDestroy x)) (.step t) = setThr (destroy s x) t (.uRelease x) := by
  simp only [apply, step, thr_setThr, ↓reduceIte]
  exact setThr_setThr (destroy s x) t _ _  -- `destroy` does not touch the threads

theorem step_uRelease_eq (s : St) (t x : Nat) :
    apply (setThr s t (.uRelease x)) (.step t) = setThr (release s x) t (.done .unit) := by
  simp only [apply, step, thr_setThr, ↓reduceIte]
  exact setThr_setThr (release s x) t _ _

/-- a complete `dealloc_id` of a unique handle's slot, run without interleaving, is the model's one-step `dealloc` -/
theorem dropUnique_complete (s : St) (t id : Nat) (ht : s.thr t = .idle) (hm : id ∈ s.uniques) :
    run s [.dropUnique t id, .step t, .step t] =
      setThr (withUniques (dealloc s id) (s.uniques.erase id)) t (.done .unit) := by
  simp only [run_cons, run_nil]
  rw [dropUnique_eq ht hm, step_uDestroy_eq, step_uRelease_eq]; rfl

/-- a thread allocating alone pops the free list front to back -/
theorem solo_allocs (t : Nat) (vs : List Nat) (s : St) (l rest : List Nat) (ht : s.thr t = .idle)
    (hf : s.free = l ++ rest) (hl : vs.length = l.length) :
    (run s (vs.flatMap fun v => [Act.newUnique t v, Act.ack t])).thr t = .idle ∧
    (run s (vs.flatMap fun v => [Act.newUnique t v, Act.ack t])).free = rest ∧
    (run s (vs.flatMap fun v => [Act.newUnique t v, Act.ack t])).uniques = l.reverse ++ s.uniques := by
  induction vs generalizing s l with
  | nil =>
    obtain rfl := List.eq_nil_of_length_eq_zero hl.symm
    exact ⟨ht, hf, rfl⟩
  | cons v vs ih =>
    cases l with
    | nil => simp at hl
    | cons x l =>
      have hf' : s.free = x :: (l ++ rest) := hf
      rw [List.flatMap_cons, run_append, run_cons, run_cons, run_nil, newUnique_eq v ht hf', ack_done]
      have := ih (setThr (withUniques (allocSt s v x (l ++ rest)) (x :: s.uniques)) t .idle) l
        (by simp) (by simp) (by simpa using hl)
      refine ⟨this.1, this.2.1, ?_⟩
      rw [this.2.2]; simp

/-! ## what an allocation returns -/

theorem newUnique_from_free {s : St} {t v id : Nat} (ht : s.thr t = .idle)
    (hres : (apply s (.newUnique t v)).thr t = .done (.unique id)) : id ∈ s.free := by
  cases hf : s.free with
  | nil => rw [newUnique_none v ht hf] at hres; simp at hres
  | cons x rest =>
    rw [newUnique_eq v ht hf] at hres
    simp only [thr_setThr, if_true, Loc.done.injEq, Res.unique.injEq] at hres
    simp [← hres]

theorem newArc_from_free {s : St} {t v k j : Nat} (ht : s.thr t = .idle) (hk : k > 0)
    (hres : (apply s (.newArc t v k)).thr t = .done (.arc j)) :
    j = s.cbs.length ∧ (getCB (apply s (.newArc t v k)) j).id ∈ s.free := by
  cases hf : s.free with
  | nil => rw [newArc_none v ht hk hf] at hres; simp at hres
  | cons x rest =>
    rw [newArc_eq v ht hk hf] at hres ⊢
    simp only [thr_setThr, if_true, Loc.done.injEq, Res.arc.injEq] at hres
    subst hres
    simp [getCB_pushCB, newCB]

/-- a slot that is not free is not handed out and not written (three clauses that the `c05_no_reuse…` statements and
    `c05_not_allocatable_while_destroyed` share) -/
theorem not_free_safe (s : St) (x : Nat) (hx : x ∉ s.free) :
    (∀ t v id, s.thr t = .idle → (apply s (.newUnique t v)).thr t = .done (.unique id) → id ≠ x) ∧
    (∀ t v k j, s.thr t = .idle → k > 0 → (apply s (.newArc t v k)).thr t = .done (.arc j) →
        (getCB (apply s (.newArc t v k)) j).id ≠ x) ∧
    (∀ a, (apply s a).slot x = s.slot x) :=
  ⟨fun _ _ _ ht hres e => hx (e ▸ newUnique_from_free ht hres),
   fun _ _ _ _ ht hk hres e => hx (e ▸ (newArc_from_free ht hk hres).2),
   fun a => (apply_untouched s a).slot x hx⟩

/-- a free slot has no other status (what `c13_exclusive` and `c13_exclusive_arc` say of the slot handed out) -/
theorem free_excl {s : St} (hi : Inv s) {x : Nat} (hx : x ∈ s.free) :
    x < s.N ∧ x ∉ s.uniques ∧ (∀ i, Owning s i → (getCB s i).id ≠ x) ∧ (∀ u, inTransitOf s (s.thr u) ≠ some x) :=
  ⟨hi.freeLt x hx, fun hu => (hi.unique hu).free hx,
   fun _ ho e => (hi.owner (owns_of_owning hi ho)).free (e ▸ hx), fun _ hu => (inTransit_ok hi hu).free hx⟩

end Mutiny.Handles
