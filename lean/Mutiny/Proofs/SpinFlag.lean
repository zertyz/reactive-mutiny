/-!
# One spin flag, one critical section

The lock discipline shared by the models in which a Boolean flag guards a region (`LockRing`, `Stack`): the flag is set
exactly while some thread is at a program point inside the region, and at most one thread is.  Stated over the three things
it speaks of (which points are inside, the flag, the program points), so that each model instantiates it.
-/

namespace Mutiny.SpinFlag

variable {L : Type} {inside : L → Prop} {flag flag' : Bool} {thr : Nat → L} {t : Nat} {l : L}

structure Excl (inside : L → Prop) (flag : Bool) (thr : Nat → L) : Prop where
  flagIff : flag = true ↔ ∃ t, inside (thr t)
  mutex   : ∀ t u, inside (thr t) → inside (thr u) → t = u

/-- `t` is the only thread that can be inside: it is, or the flag is free. -/
abbrev Sole (inside : L → Prop) (flag : Bool) (thr : Nat → L) (t : Nat) : Prop := inside (thr t) ∨ flag = false

theorem Excl.others_out (h : Excl inside flag thr) (ht : Sole inside flag thr t) {u : Nat} (hu : u ≠ t) :
    ¬ inside (thr u) := fun hi =>
  ht.elim (fun h1 => hu (h.mutex u t hi h1)) (fun h0 => by simp [h.flagIff.2 ⟨u, hi⟩] at h0)

theorem Excl.locked (h : Excl inside flag thr) (ht : inside (thr t)) : flag = true := h.flagIff.2 ⟨t, ht⟩

/-- With every other thread outside and `t` outside too, the flag is free. -/
theorem Excl.free_of_solo (h : Excl inside flag thr) (ho : ∀ u, u ≠ t → ¬ inside (thr u)) (ht : ¬ inside (thr t)) :
    flag = false := by
  cases flag with
  | false => rfl
  | true =>
    obtain ⟨u, hu⟩ := h.flagIff.1 rfl
    by_cases e : u = t
    · exact absurd (e ▸ hu) ht
    · exact absurd hu (ho u e)

theorem Excl.sole_of_others_out (h : Excl inside flag thr) (ho : ∀ u, u ≠ t → ¬ inside (thr u)) : Sole inside flag thr t :=
  Classical.or_iff_not_imp_left.2 (h.free_of_solo ho)

/-- A step of the one thread that can be inside: it may go anywhere, the flag following it (acquire, move inside,
release). -/
theorem Excl.own (h : Excl inside flag thr) (ht : Sole inside flag thr t) (hf : flag' = true ↔ inside l) :
    Excl inside flag' (fun u => if u = t then l else thr u) := by
  have out : ∀ u, inside (if u = t then l else thr u) → u = t := fun u hu =>
    Classical.byContradiction fun e => h.others_out ht e (by simpa [e] using hu)
  refine ⟨hf.trans ⟨fun hl => ⟨t, by simpa using hl⟩, fun ⟨u, hu⟩ => ?_⟩, fun a b ha hb => (out a ha).trans (out b hb).symm⟩
  have := out u hu; subst this; simpa using hu

/-- A step of a thread that is outside and stays outside. -/
theorem Excl.other (h : Excl inside flag thr) (h1 : ¬ inside (thr t)) (h2 : ¬ inside l) :
    Excl inside flag (fun u => if u = t then l else thr u) := by
  have same : ∀ u, inside (if u = t then l else thr u) ↔ inside (thr u) := fun u => by
    by_cases e : u = t
    · subst e; simp [h1, h2]
    · simp [e]
  exact ⟨h.flagIff.trans (exists_congr fun u => (same u).symm),
    fun a b ha hb => h.mutex a b ((same a).1 ha) ((same b).1 hb)⟩

end Mutiny.SpinFlag
