import Mutiny.Proofs.IncAvgInv

/-!
# `IncAvg`: every accepted `inc` call commits exactly once (trace level)

`acceptedVals avgUpd s as` = the measurements of the `inc` calls that were accepted (thread idle) along the run `as`
from `s`.  Invariant (`Acct`): as multisets, accepted = committed + the measurements of the calls in flight, which a
duplicate-free list `L` of `(thread, measurement)` lists one per thread: *exactly* the threads at `iLoad x`, `iCas x _`.
-/

namespace Mutiny.IncAvg

/-- thread location `l` is inside an `inc` call carrying measurement `x` -/
def flying (l : Loc) (x : Nat) : Prop := l = .iLoad x ∨ ∃ cur, l = .iCas x cur

/-- what the action `a` adds to the accepted measurements -/
def newAccepted (s : St) : Act → List Nat
  | .inc t x => if s.thr t = .idle then [x] else []
  | _ => []

def acceptedVals (avgUpd : Nat → Nat → Nat → Nat) (s : St) : List Act → List Nat
  | [] => []
  | a :: as => newAccepted s a ++ acceptedVals avgUpd (apply avgUpd s a) as

def Acct (s : St) (acc : List Nat) : Prop :=
  ∃ L : List (Nat × Nat), (L.map (·.1)).Nodup ∧ (∀ t x, (t, x) ∈ L ↔ flying (s.thr t) x)
    ∧ acc.Perm (s.commits ++ L.map (·.2))

theorem acct_init : Acct init [] :=
  ⟨[], by simp, by intro t x; simp [init, flying], by simp [init]⟩

/-- a `Local` move keeps the thread in flight with its measurement, or outside `inc`, unless it is the accepted `inc`
    itself -/
theorem Local.flying_iff {s : St} {t : Nat} {a : Act} {l l' : Loc} (h : Local s t a l l') (x : Nat) :
    flying l' x ↔ flying l x ∨ a = .inc t x := by
  cases h <;> simp [flying]

theorem acct_setThr {s : St} {t : Nat} {l : Loc} {acc : List Nat} (h : Acct s acc)
    (hl : ∀ x, flying l x ↔ flying (s.thr t) x) : Acct (setThr s t l) acc := by
  obtain ⟨L, nd, mem, perm⟩ := h
  refine ⟨L, nd, fun u x => ?_, perm⟩
  rw [mem u x]
  by_cases hut : u = t
  · subst hut; simp [hl x]
  · simp [hut]

theorem acct_start {s : St} {t x : Nat} {acc : List Nat} (h : Acct s acc) (hidle : s.thr t = .idle) :
    Acct (setThr s t (.iLoad x)) (acc ++ [x]) := by
  obtain ⟨L, nd, mem, perm⟩ := h
  refine ⟨(t, x) :: L, ?_, fun u y => ?_, ?_⟩
  · simp only [List.map_cons, List.nodup_cons, List.mem_map, not_exists, not_and]
    refine ⟨?_, nd⟩
    rintro ⟨u, y⟩ hp e
    simp only at e; subst e
    have := (mem u y).1 hp
    simp [hidle, flying] at this
  · simp only [List.mem_cons, Prod.mk.injEq, mem u y, thr_setThr]
    by_cases hut : u = t
    · subst hut; simp [hidle, flying, eq_comm]
    · simp [hut]
  · simp only [commits_setThr, List.map_cons]
    exact (perm.append_right [x]).trans (by rw [List.append_assoc]; exact List.Perm.append_left _ (by simp))

variable {avgUpd : Nat → Nat → Nat → Nat}

theorem acct_commit {s : St} {t x : Nat} {acc : List Nat} (h : Acct s acc)
    (ht : s.thr t = .iCas x s.cell) : Acct (commit avgUpd s t x) acc := by
  obtain ⟨L, nd, mem, perm⟩ := h
  have hin : (t, x) ∈ L := (mem t x).2 (by simp [ht, flying])
  have ndL : L.Nodup := List.Pairwise.of_map (·.1) (fun a b hab e => hab (by rw [e])) nd
  refine ⟨L.erase (t, x), List.Nodup.sublist (List.Sublist.map _ List.erase_sublist) nd, fun u y => ?_, ?_⟩
  · rw [ndL.mem_erase_iff, mem u y]
    by_cases hut : u = t
    · subst hut; simp [commit, ht, flying, eq_comm]
    · simp [commit, hut]
  · simp only [commit, commits_setThr]
    have p1 : (L.map (·.2)).Perm (x :: (L.erase (t, x)).map (·.2)) := (List.perm_cons_erase hin).map (·.2)
    refine perm.trans ?_
    rw [List.append_assoc]
    exact List.Perm.append_left _ (by simpa using p1)

theorem acct_apply (s : St) (a : Act) (acc : List Nat) (h : Acct s acc) :
    Acct (apply avgUpd s a) (acc ++ newAccepted s a) := by
  rcases apply_cases avgUpd s a with ⟨e, hn⟩ | ⟨t, l, l', hlt, hl, e⟩ | ⟨t, x, rfl, ht, e⟩ <;> rw [e]
  · have : newAccepted s a = [] := by cases a <;> simp_all [newAccepted]
    simpa [this] using h
  · have hfl := hl.flying_iff
    cases hl with
    | inc x => simpa [newAccepted, hlt] using acct_start h hlt
    | _ => simpa [newAccepted] using acct_setThr h fun x => by simpa [hlt] using hfl x
  · simpa [newAccepted] using acct_commit h ht

theorem acct_run (s : St) (as : List Act) (acc : List Nat) (h : Acct s acc) :
    Acct (run avgUpd s as) (acc ++ acceptedVals avgUpd s as) := by
  induction as generalizing s acc with
  | nil => simpa [run, acceptedVals] using h
  | cons a as ih =>
    have := ih (apply avgUpd s a) (acc ++ newAccepted s a) (acct_apply s a acc h)
    simpa [run, acceptedVals, List.append_assoc] using this

end Mutiny.IncAvg
