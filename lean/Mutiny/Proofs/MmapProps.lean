import Mutiny.Proofs.MmapInv

/-!
# Consequences of the `MmapLog` invariant, in the form `Props/C09.lean` uses them

What only ever grows along a run (`Mono`; by cases on what an action writes, `apply_shape`), write-once slots, and the
logical cursor `cur` of a subscriber with `Received.of_inv`: what subscriber `i` received so far is *literally* the
segment `[start, cur)` of the visibility log.  Then the steps of a send and of a poll under the invariant (`…_step`),
what holds in every state after a subscription's load step (`AfterLoad`), and the run that the examples of
`Props/C09.lean` and `Props/C17_Log.lean` evaluate.
-/

namespace Mutiny.MmapLog

/-- what only grows, under `Inv` or not; `consTail ≤` is `log` with `logLen` at both ends, under `Inv` -/
structure Mono (s s' : St) : Prop where
  pub : s.pubTail ≤ s'.pubTail
  len : s.subs.length ≤ s'.subs.length
  kind : ∀ i, i < s.subs.length → (getSub s' i).kind = (getSub s i).kind
  start : ∀ i, i < s.subs.length → (getSub s' i).start = (getSub s i).start
  log : ∃ l, s'.log = s.log ++ l

theorem Mono.refl (s : St) : Mono s s where
  pub := Nat.le_refl _
  len := Nat.le_refl _
  kind _ _ := rfl
  start _ _ := rfl
  log := ⟨[], (List.append_nil _).symm⟩

theorem Mono.trans {a b c : St} (h1 : Mono a b) (h2 : Mono b c) : Mono a c where
  pub := Nat.le_trans h1.pub h2.pub
  len := Nat.le_trans h1.len h2.len
  kind i hi := by rw [h2.kind i (Nat.lt_of_lt_of_le hi h1.len), h1.kind i hi]
  start i hi := by rw [h2.start i (Nat.lt_of_lt_of_le hi h1.len), h1.start i hi]
  log := have ⟨l1, e1⟩ := h1.log; have ⟨l2, e2⟩ := h2.log; ⟨l1 ++ l2, by rw [e2, e1, List.append_assoc]⟩

theorem Upd.mono {s s1 : St} (h : Upd s s1) : Mono s s1 := by
  cases h with
  | none | wrSlot _ | deliver _ => exact { Mono.refl s with }
  | incPub => exact { Mono.refl s with pub := Nat.le_succ _ }
  | pubLog => exact { Mono.refl s with log := ⟨_, rfl⟩ }
  | addSubs ls =>
    exact { Mono.refl s with
      len := by rw [length_addSubs]; exact Nat.le_add_right ..
      kind := fun i hi => by rw [getSub_addSubs, if_pos hi]
      start := fun i hi => by rw [getSub_addSubs, if_pos hi] }
  | setHead i h =>
    exact { Mono.refl s with
      len := Nat.le_of_eq (length_setHead ..).symm
      kind := fun _ _ => kind_setHead ..
      start := fun _ _ => start_setHead .. }

theorem mono_apply (s : St) (a : Act) : Mono s (apply s a) := by
  rcases apply_shape s a with e | ⟨s1, l, hu, e, _⟩ <;> rw [e]
  · exact Mono.refl s
  · exact { hu.mono with }  -- `Mono` does not read the threads

theorem mono_run (s : St) (as : List Act) : Mono s (run s as) := by
  induction as generalizing s with
  | nil => exact Mono.refl s
  | cons a as ih => exact (mono_apply s a).trans (ih _)

/-! ## the visibility log, write-once slots -/

variable {s : St}

theorem log_pos (h : Inv s) : s.log.map (·.1) = List.range s.consTail := by
  apply List.ext_getElem?
  intro p
  rw [List.getElem?_map]
  by_cases hp : p < s.consTail
  · obtain ⟨v, _, hv⟩ := h.logOk p hp
    simp [hv, hp]
  · rw [List.getElem?_eq_none (by rw [h.logLen]; omega)]; simp; omega

theorem log_getElem?_fst (h : Inv s) {p q v : Nat} (hm : s.log[p]? = some (q, v)) :
    q = p ∧ p < s.consTail ∧ s.slots p = some v := by
  have hp : p < s.consTail := by
    rw [← h.logLen]; exact (List.getElem?_eq_some_iff.mp hm).1
  obtain ⟨w, hw1, hw2⟩ := h.logOk p hp
  rw [hw2] at hm
  simp only [Option.some.injEq, Prod.mk.injEq] at hm
  exact ⟨hm.1.symm, hp, by rw [hw1, hm.2]⟩

theorem log_mem_lt (h : Inv s) {p v : Nat} (hm : (p, v) ∈ s.log) : p < s.consTail := by
  obtain ⟨k, hk⟩ := List.getElem?_of_mem hm
  obtain ⟨rfl, lt, _⟩ := log_getElem?_fst h hk
  exact lt

theorem writes_le_one (h : Inv s) (p : Nat) : s.writes p ≤ 1 := by
  by_cases hp : s.consTail ≤ p ∧ p < s.pubTail
  · obtain ⟨t, ht⟩ := h.pCover p hp.1 hp.2
    cases hl : s.thr t <;> simp only [hl, holdsP] at ht
    case pWrite => subst ht; rw [h.wWrite t _ _ hl]; exact Nat.zero_le 1
    case pPublish => subst ht; exact Nat.le_of_eq (h.wPub t _ hl)
  · have := h.wLow p; have := h.wHigh p; omega

/-- the only writer of a slot holds a position that has no write yet -/
theorem slots_stable_apply (h : Inv s) (a : Act) {p v : Nat} (hs : s.slots p = some v) :
    (apply s a).slots p = some v := by
  rcases apply_shape s a with e | ⟨s1, l, hu, e, _⟩ <;> rw [e]
  · exact hs
  · cases hu with
    | @wrSlot u w pos hw =>
      have hn := (h.slotW pos).mpr (h.wWrite u w pos hw)
      show (if p = pos then some w else s.slots p) = some v
      rw [if_neg fun e => by rw [e, hn] at hs; cases hs]; exact hs
    | _ => exact hs

theorem slots_stable_run (h : Inv s) (as : List Act) (hok : RunOk s as) {p v : Nat}
    (hs : s.slots p = some v) : (run s as).slots p = some v := by
  induction as generalizing s with
  | nil => exact hs
  | cons a as ih => exact ih (inv_apply s a h hok.1) hok.2 (slots_stable_apply h a hs)

/-! ## the logical cursor -/

open Classical in
/-- the logical cursor of subscriber `i`: its `head`, minus the increment of a poll in progress that has not delivered
    (or given the increment back) yet -/
noncomputable def cur (s : St) (i : Nat) : Nat :=
  if ∃ t c, pending (s.thr t) i c then (getSub s i).head - 1 else (getSub s i).head

theorem cur_pending (h : Inv s) {t i c : Nat} (hp : pending (s.thr t) i c) : cur s i = c := by
  rw [cur, if_pos ⟨t, c, hp⟩, (h.pendOk t i c hp).1]; rfl

theorem cur_idle {i : Nat} (hn : ∀ t c, ¬ pending (s.thr t) i c) : cur s i = (getSub s i).head :=
  if_neg fun ⟨t, c, hp⟩ => hn t c hp

theorem subOk_cur (h : Inv s) {i : Nat} (hi : i < s.subs.length) : SubOk s i (cur s i) := by
  by_cases hp : ∃ t c, pending (s.thr t) i c
  · obtain ⟨t, c, hp⟩ := hp
    rw [cur_pending h hp]; exact (h.pendOk t i c hp).2
  · have hn : ∀ t c, ¬ pending (s.thr t) i c := fun t c hq => hp ⟨t, c, hq⟩
    rw [cur_idle hn]; exact h.idleOk i hi hn

/-- what subscriber `i` received so far: `(position, value)` in delivery order -/
def delPV (s : St) (i : Nat) : List (Nat × Nat) := (s.delivered.filter (fun x => x.1 == i)).map (·.2)

theorem delOf_eq_delPV (s : St) (i : Nat) : delOf s i = (delPV s i).map (·.1) := by
  simp [delOf, delPV, List.map_map]

theorem mem_delPV {i p v : Nat} : (p, v) ∈ delPV s i ↔ (i, p, v) ∈ s.delivered := by
  simp only [delPV, List.mem_map, List.mem_filter, beq_iff_eq]
  constructor
  · rintro ⟨⟨j, q, w⟩, ⟨hm, rfl⟩, ⟨⟩⟩; exact hm
  · intro hm; exact ⟨(i, p, v), ⟨hm, rfl⟩, rfl⟩

theorem eq_take_drop_of_keys {L : List (Nat × Nat)} : ∀ {l : List (Nat × Nat)} {a n : Nat},
    l.map (·.1) = List.range' a n → (∀ x ∈ l, L[x.1]? = some x) → l = (L.drop a).take n
  | [], a, n, hk, _ => by cases n <;> simp_all
  | x :: l, a, n, hk, hv => by
    cases n with
    | zero => cases hk
    | succ n =>
      rw [List.range'_succ, List.map_cons, List.cons.injEq] at hk
      obtain ⟨lt, e⟩ := List.getElem?_eq_some_iff.1 (hk.1 ▸ hv x (List.mem_cons_self ..))
      rw [List.drop_eq_getElem_cons lt, e, List.take_succ_cons,
        ← eq_take_drop_of_keys hk.2 fun y hy => hv y (List.mem_cons_of_mem _ hy)]

/-- what subscriber `i`, whose first position is `a`, received is *literally* the segment `[a, cur)` of the visibility
    log (`seg`, `mem`); `le`, `bound`, `pos` are `SubOk` at the logical cursor -/
structure Received (s : St) (i a : Nat) : Prop where
  seg : delPV s i = (s.log.drop a).take (cur s i - a)
  le : a ≤ cur s i
  bound : Bound s.consTail (getSub s i).kind (cur s i)
  pos : delOf s i = List.range' a (cur s i - a)
  mem : ∀ p v, (i, p, v) ∈ s.delivered ↔ a ≤ p ∧ p < cur s i ∧ s.log[p]? = some (p, v)

theorem Received.of_inv (h : Inv s) {i a : Nat} (hi : i < s.subs.length) (ha : (getSub s i).start = a) :
    Received s i a := by
  subst ha
  obtain ⟨le, bound, pos⟩ := subOk_cur h hi
  have seg := eq_take_drop_of_keys (by rw [← delOf_eq_delPV]; exact pos) fun x hx => h.delVal (i, x) (mem_delPV.1 hx)
  refine { seg, le, bound, pos, mem p v := ?_ }
  rw [← mem_delPV, seg, List.mem_iff_getElem?]
  simp only [List.getElem?_take, List.getElem?_drop]
  constructor
  · rintro ⟨k, e⟩
    split at e
    · obtain ⟨rfl, _⟩ := log_getElem?_fst h e
      exact ⟨Nat.le_add_right .., by omega, e⟩
    · cases e
  · rintro ⟨h2, h3, e⟩
    exact ⟨p - (getSub s i).start, by rw [if_pos (by omega), Nat.add_sub_cancel' h2]; exact e⟩

/-- subscribers `i` (old, read up to `tl`) and `i + 1` (new, from `tl` on; the primed fields) are the two halves of a
    split at `tl` -/
structure Split (s : St) (i tl : Nat) : Prop where
  start : (getSub s i).start = 0
  lt : i + 1 < s.subs.length
  kind' : (getSub s (i + 1)).kind = .dyn
  start' : (getSub s (i + 1)).start = tl
  tail : tl ≤ s.consTail
  old : cur s i ≤ tl
  new : tl ≤ cur s (i + 1)
  vis : cur s (i + 1) ≤ s.consTail

theorem split_of_fixed (h : Inv s) {i tl : Nat} (hi : i < s.subs.length)
    (hk : (getSub s i).kind = .fixed tl) : Split s i tl := by
  obtain ⟨start, lt, kind', start'⟩ := h.fixedPair i tl hi hk
  obtain ⟨_, b1, _⟩ := subOk_cur h hi
  obtain ⟨a2, b2, _⟩ := subOk_cur h lt
  rw [hk] at b1; rw [kind'] at b2; simp only [Bound] at b1 b2
  exact { start, lt, kind', start', tail := b1.2, old := b1.1, new := by omega, vis := b2 }

/-! ## the steps of a send and of a poll, under the invariant -/

section steps
variable {t i c v pos : Nat}

theorem pFetch_step (ht : s.thr t = .pFetch v) :
    (step s t).thr t = .pWrite v s.pubTail ∧ (step s t).pubTail = s.pubTail + 1 := by simp [step, ht, setThr]

theorem pWrite_step (h : Inv s) (ht : s.thr t = .pWrite v pos) :
    s.writes pos = 0 ∧ (step s t).writes pos = 1 ∧ s.consTail ≤ pos ∧ s.slots pos = none ∧
    (step s t).slots pos = some v ∧ (step s t).thr t = .pPublish pos ∧ (step s t).log = s.log := by
  have hw := h.wWrite t v pos ht
  refine ⟨hw, ?_, (h.pRange t pos (by rw [ht]; rfl)).1, (h.slotW pos).2 hw, ?_⟩ <;> simp [step, ht, hw, setThr]

/-- `mm.c.loadtail`: `none` is on its way iff nothing is visible at the cursor; then all that is visible is delivered -/
theorem cLoadTail_step {a : Nat} (h : Inv s) (ha : (getSub s i).start = a) (ht : s.thr t = .cLoadTail i c) :
    cur s i = c ∧ (s.consTail ≤ c → (step s t).thr t = .cRecede i c ∧ delPV s i = s.log.drop a) ∧
    (c < s.consTail → (step s t).thr t = .cRead i c) := by
  have hp : pending (s.thr t) i c := by rw [ht]; exact ⟨rfl, rfl⟩
  have hc := cur_pending h hp
  simp only [step, ht]
  refine ⟨hc, fun le => ⟨by rw [if_pos le]; simp, ?_⟩, fun lt => by rw [if_neg (by omega)]; simp⟩
  rw [(Received.of_inv h (h.pendLt hp) ha).seg, List.take_of_length_le]
  rw [List.length_drop, h.logLen, hc]; omega

/-- `mm.c.recede`: with one poller the CAS succeeds at once -/
theorem cRecede_step (h : Inv s) (ht : s.thr t = .cRecede i c) :
    cur s i = c ∧ (step s t).thr t = .done (.item none) ∧ (step s t).delivered = s.delivered ∧
    (getSub (step s t) i).head = c := by
  have hp : pending (s.thr t) i c := by rw [ht]; exact ⟨rfl, rfl⟩
  simp only [step, ht, if_pos (h.pendOk t i c hp).1]
  exact ⟨cur_pending h hp, by simp, rfl, by rw [getSub_setThr, getSub_setHead, if_pos ⟨rfl, h.pendLt hp⟩]⟩

theorem cRead_step (h : Inv s) (ht : s.thr t = .cRead i c) :
    cur s i = c ∧ ∃ v, s.log[c]? = some (c, v) ∧ (step s t).thr t = .done (.item (some v)) ∧
      (step s t).delivered = s.delivered ++ [(i, c, v)] := by
  obtain ⟨v, hv1, hv2⟩ := h.logOk c (h.readOk t i c ht).1
  simp only [step, ht, hv1, Option.getD_some]
  exact ⟨cur_pending h (by rw [ht]; exact ⟨rfl, rfl⟩), v, hv2, by simp, rfl⟩

end steps

/-! ## every state after a `mm.s.load` step -/

/-- `s'` is a state after the `mm.s.load` step of thread `t` in state `s`, which appended the subscribers `ls`: what was
    visible at the load lies below the loaded tail (`below`), every send in flight and every later send at or above it
    (`flight`, `later`) -/
structure AfterLoad (s : St) (t : Nat) (ls : List Sub) (r : Res) (s' : St) : Prop where
  thr : (step s t).thr t = .done r
  len : (step s t).subs.length = s.subs.length + ls.length
  reach : ReachableX s'
  /-- the subscriber `ls[k]`, at index `j` (both side conditions are closed by `rfl`), keeps its kind and start -/
  new : ∀ j k x, s.subs.length + k = j → ls[k]? = some x → getSub (step s t) j = x ∧ j < s'.subs.length ∧
    (getSub s' j).kind = x.kind ∧ (getSub s' j).start = x.start
  below : ∀ p w, (p, w) ∈ s.log → p < s.consTail
  logLen : s.log.length = s.consTail
  flight : ∀ u k, holdsP (s.thr u) k → s.consTail ≤ k
  later : ∀ u v, s'.thr u = .pFetch v → (step s' u).thr u = .pWrite v s'.pubTail ∧ s.consTail ≤ s'.pubTail
  log : ∃ l, s'.log = s.log ++ l

theorem AfterLoad.of_run (hr : ReachableX s) {t : Nat} {ls : List Sub} {r : Res}
    (e : step s t = setThr (addSubs s ls) t (.done r)) (as : List Act) (hok : RunOk (step s t) as) :
    AfterLoad s t ls r (run (step s t) as) := by
  have hi := reachable_inv hr
  have hm := mono_run (step s t) as
  have hm0 := (mono_apply s (.step t)).trans hm
  have len : (step s t).subs.length = s.subs.length + ls.length := by rw [e]; exact length_addSubs ..
  exact
    { thr := by rw [e]; exact if_pos rfl
      len
      reach := (hr.apply (.step t) nofun).run as hok
      new j k x ej hx := by
        subst ej
        have lt : s.subs.length + k < (step s t).subs.length := by have := (List.getElem?_eq_some_iff.1 hx).1; omega
        have g : getSub (step s t) (s.subs.length + k) = x := by
          rw [e, getSub_setThr, getSub_addSubs_add, List.getD_eq_getElem?_getD, hx]; rfl
        exact ⟨g, Nat.lt_of_lt_of_le lt hm.len, g ▸ hm.kind _ lt, g ▸ hm.start _ lt⟩
      below _ _ := log_mem_lt hi
      logLen := hi.logLen
      flight u k hu := (hi.pRange u k hu).1
      later u v hu := ⟨(pFetch_step hu).1, by have := hm0.pub; have := hi.hCP; omega⟩
      log := hm0.log }

/-! ## the run of the examples: `demoA ++ demoB ++ [.step 2] ++ demoC ++ demoD ++ [.step 6] ++ demoE`

The two load steps stand alone so that an example can stop in front of one.  `demoA`: threads 0 and 1 send 10 and 11 and
get positions 0 and 1; thread 1 writes first and spins at its publish CAS.  `demoB`: thread 2 splits while position 1 is
written but not visible (`tl = 1`): subscribers 0 (old), 1 (new).  `demoC`: position 1 becomes visible; thread 3 drains
the old half (10, then `none`), thread 4 polls the new half (11), thread 5 joins (subscriber 2) and replays 10, 11,
`none`.  `demoD`, `demoE`: thread 6 subscribes to new events only (subscriber 3), thread 0 sends 12, thread 6 receives
it. -/

def demoA : List Act :=
  [.send 0 10, .send 1 11, .step 0, .step 1, .step 1, .step 1, .step 0, .step 0, .ack 0]
def demoB : List Act := [.subSplit 2]
def demoC : List Act :=
  [.ack 2, .step 1, .ack 1,
   .poll 3 0, .step 3, .step 3, .ack 3, .poll 3 0, .step 3, .step 3, .ack 3,
   .poll 4 1, .step 4, .step 4, .step 4, .ack 4,
   .subJoined 5, .ack 5, .poll 5 2, .step 5, .step 5, .step 5, .ack 5, .poll 5 2, .step 5, .step 5, .step 5, .ack 5,
   .poll 5 2, .step 5, .step 5, .step 5, .ack 5]
def demoD : List Act := [.subNew 6]
def demoE : List Act :=
  [.ack 6, .send 0 12, .step 0, .step 0, .step 0, .ack 0, .poll 6 3, .step 6, .step 6, .step 6]

def demoOwner (i : Nat) : Nat := if i = 0 then 3 else if i = 1 then 4 else if i = 2 then 5 else 6

theorem demo_reachable (as : List Act) (h : ownedCheck demoOwner as = true) : ReachableX (run init as) :=
  ⟨as, runOk_of_owned demoOwner as (owned_of_check h), rfl⟩

/-- implicit on purpose: a prefix `as` spelt out is unified with the goal's `let` by evaluating the run -/
theorem demo_runOk {as bs : List Act} {t : Nat} (h : ownedCheck demoOwner (as ++ .step t :: bs) = true) :
    RunOk (step (run init as) t) bs :=
  ((runOk_append ..).1 (runOk_of_owned demoOwner _ (owned_of_check h))).2.2

end Mutiny.MmapLog
