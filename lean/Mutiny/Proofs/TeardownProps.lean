import Mutiny.Model.Teardown

/-!
# Teardown (drop order) lemmas for C05

The fold over the fields has a closed form (`foldl_dropField`): every handle-holding field destroys its `k` buffered
handles, and those declared after the first allocator (`lateHandles`) do so on freed pool memory.  So a teardown is free
of errors for every `k` iff `lateHandles fields = 0`, which is what the decidable `orderOk` says.
-/

namespace Mutiny.Teardown

def handleCount (fields : List Role) : Nat := fields.count .handles

/-- handle-holding fields declared (= dropped) after the first allocator field -/
def lateHandles : List Role → Nat
  | [] => 0
  | .allocator :: rest => handleCount rest
  | _ :: rest => lateHandles rest

theorem foldl_dropField (k : Nat) (fields : List Role) (st : TState) :
    fields.foldl (dropField k) st =
      { poolFreed := st.poolFreed || fields.contains .allocator
        errors := st.errors + k * (if st.poolFreed then handleCount fields else lateHandles fields)
        dropped := st.dropped + k * handleCount fields } := by
  induction fields generalizing st with
  | nil => simp [handleCount, lateHandles]
  | cons r rest ih =>
    rw [List.foldl_cons, ih]
    cases r <;> cases h : st.poolFreed <;> simp [dropField, handleCount, lateHandles, h, Nat.mul_add] <;> omega

theorem teardown_errors (fields : List Role) (k : Nat) : (teardown fields k).errors = k * lateHandles fields := by
  simp [teardown, foldl_dropField]

theorem teardown_dropped (fields : List Role) (k : Nat) : (teardown fields k).dropped = k * handleCount fields := by
  simp [teardown, foldl_dropField]

theorem orderOk_iff (fields : List Role) : orderOk fields = true ↔ lateHandles fields = 0 := by
  induction fields with
  | nil => simp [orderOk, lateHandles]
  | cons r rest ih =>
    cases r with
    | allocator => simp [orderOk, lateHandles, handleCount, List.count_eq_zero]
    | handles | other => simpa [orderOk, lateHandles] using ih

/-- no pool access after the pool was freed, whatever number of handles is still buffered, iff no handle-holding
    field is declared after the allocator -/
theorem teardown_safe_iff (fields : List Role) : (∀ k, (teardown fields k).errors = 0) ↔ orderOk fields = true := by
  rw [orderOk_iff]
  constructor
  · intro h; have := h 1; rw [teardown_errors] at this; omega
  · intro h k; rw [teardown_errors, h]; rfl

end Mutiny.Teardown
