import Mutiny.Proofs.RingProps
import Mutiny.Model.ZeroCopy

/-!
# M4 `ZeroCopy` (pool + free-list ring + ring of ids): what the composition needs to know about one ring

* what one ring step does to the pending content (`consumer_step`, `producer_step`, `publisher_step`);
* `Tok`: bookkeeping of tokens (pool slots) that are inside the rings or in a thread's hands; `Tok.move` is the one way
  it is preserved, `ring_room` what it buys (pigeonhole: a ring of conserved tokens always has room).

`ConsLoc`, `ProdLoc`, `Pub` here and `held`, `slot`, `phaseOk` of `ZeroCopyConserve` end in a wildcard: a new program
point of the ring or phase of the container holds nothing and works on no ring until it is entered there.
-/

namespace Mutiny.ZeroCopy

/-- consumer-side program points of M1 (an operation in progress, result not yet produced) -/
def ConsLoc : Ring.Loc → Prop
  | .cFetch | .cLoadTail _ | .cRecede _ | .cChkHead | .cChkTail _ _ | .cRead _ | .cRelease _ _ => True
  | _ => False

/-- producer-side program points of a plain `publish_movable(v)` in progress -/
def ProdLoc (v : Nat) : Ring.Loc → Prop
  | .pFetch v' false => v' = v
  | .pLoadHead v' _ false => v' = v
  | .pRecede v' _ false _ => v' = v
  | .pWrite v' _ _ => v' = v
  | .pPublish v' _ _ => v' = v
  | _ => False

/-- `ProdLoc v` without `pRecede`: a publisher that is not giving its claim back -/
def Pub (v : Nat) : Ring.Loc → Prop
  | .pFetch v' false | .pLoadHead v' _ false | .pWrite v' _ _ | .pPublish v' _ _ => v' = v
  | _ => False

theorem ConsLoc.not_rCan {l : Ring.Loc} (h : ConsLoc l) (id idx g : Nat) : l ≠ .rCan id idx g :=
  fun e => by subst e; exact h
theorem ConsLoc.not_done {l : Ring.Loc} (h : ConsLoc l) (r : Ring.Res) : l ≠ .done r := fun e => by subst e; exact h
theorem ConsLoc.not_holdsP {l : Ring.Loc} (h : ConsLoc l) (k : Nat) : ¬ Ring.holdsP l k := by
  cases l <;> simp_all [ConsLoc, Ring.holdsP]
theorem Pub.not_rCan {v : Nat} {l : Ring.Loc} (h : Pub v l) (id idx g : Nat) : l ≠ .rCan id idx g :=
  fun e => by subst e; exact h
theorem Pub.not_done {v : Nat} {l : Ring.Loc} (h : Pub v l) (r : Ring.Res) : l ≠ .done r := fun e => by subst e; exact h
theorem Pub.not_pLen {v : Nat} {l : Ring.Loc} (h : Pub v l) (k : Nat) : l ≠ .pLen k := fun e => by subst e; exact h

theorem consumer_step (s : Ring.St) (t : Nat) (h : Ring.Inv s) (hc : ConsLoc (s.thr t)) :
    (∃ id, (Ring.step s t).thr t = .done (.got id) ∧ Ring.abs s = id :: Ring.abs (Ring.step s t)) ∨
    ((Ring.step s t).thr t = .done .empty ∧ Ring.abs (Ring.step s t) = Ring.abs s) ∨
    (ConsLoc ((Ring.step s t).thr t) ∧ Ring.abs (Ring.step s t) = Ring.abs s) := by
  cases hl : s.thr t <;> simp only [hl, ConsLoc] at hc <;> simp only [Ring.step, hl]
  case cRelease id v =>
    split
    next he =>
      subst he
      refine .inl ⟨v, by simp, ?_⟩
      show s.accepted.drop s.head = v :: s.accepted.drop (s.head + 1)
      rw [List.drop_eq_getElem?_toList_append, h.relOk t _ v hl]; rfl
    next => exact .inr (.inr ⟨by rw [hl]; trivial, rfl⟩)
  case cChkTail hh w =>
    split
    · exact .inr (.inl ⟨by simp, rfl⟩)
    · exact .inr (.inr ⟨by simp [ConsLoc], rfl⟩)
  case cLoadTail | cRecede => split <;> exact .inr (.inr ⟨by simp [ConsLoc], rfl⟩)
  all_goals exact .inr (.inr ⟨by simp [ConsLoc], rfl⟩)

/-- the step after a publication (`len_after_publishing`): the call returns, the pending content is untouched -/
theorem plen_step (s : Ring.St) (t sid : Nat) (hl : s.thr t = .pLen sid) :
    (∃ len, (Ring.step s t).thr t = .done (.sent len)) ∧ Ring.abs (Ring.step s t) = Ring.abs s := by
  simp only [Ring.step, hl]
  exact ⟨⟨max 1 (sid + 1 - s.head), by simp⟩, rfl⟩

theorem producer_step (s : Ring.St) (t v : Nat) (h : Ring.Inv s) (hp : ProdLoc v (s.thr t)) :
    (∃ sid, (Ring.step s t).thr t = .pLen sid ∧ Ring.abs (Ring.step s t) = Ring.abs s ++ [v]) ∨
    ((Ring.step s t).thr t = .done .full ∧ Ring.abs (Ring.step s t) = Ring.abs s ∧
        ∃ w id b, s.thr t = .pRecede w id false b ∧ s.enqTail = id + 1) ∨
    (ProdLoc v ((Ring.step s t).thr t) ∧ Ring.abs (Ring.step s t) = Ring.abs s) := by
  cases hl : s.thr t <;> simp only [hl, ProdLoc] at hp <;> simp only [Ring.step, hl]
  case pPublish v' id len =>
    subst hp
    split
    · exact .inl ⟨id, by simp, h.shared.fifo.drop_snoc v'⟩
    · exact .inr (.inr ⟨by rw [hl]; rfl, rfl⟩)
  case pFetch v' rsv =>
    cases rsv with
    | true => exact hp.elim
    | false => exact .inr (.inr ⟨by simpa [ProdLoc], rfl⟩)
  case pLoadHead v' id rsv =>
    cases rsv with
    | true => exact hp.elim
    | false => split <;> exact .inr (.inr ⟨by simpa [ProdLoc], rfl⟩)
  case pRecede v' id rsv b =>
    cases rsv with
    | true => exact hp.elim
    | false =>
      split
      next he => exact .inr (.inl ⟨by simp, rfl, v', id, b, rfl, he⟩)
      next => exact .inr (.inr ⟨by simpa [ProdLoc], rfl⟩)
  case pWrite v' id len => exact .inr (.inr ⟨by simpa [ProdLoc], rfl⟩)

/-- in a ring that has room a publisher never finds it full -/
theorem publisher_step (r : Ring.St) (t v : Nat) (h : Ring.Inv r) (hp : Pub v (r.thr t))
    (hroom : r.enqTail ≤ r.head + r.N) :
    (∃ sid, (Ring.step r t).thr t = .pLen sid ∧ Ring.abs (Ring.step r t) = Ring.abs r ++ [v]) ∨
    (Pub v ((Ring.step r t).thr t) ∧ Ring.abs (Ring.step r t) = Ring.abs r) := by
  cases hl : r.thr t <;> simp only [hl, Pub] at hp
  case pLoadHead v' id rsv =>
    -- the admission test succeeds
    have := (h.pRange t id (by rw [hl]; rfl)).2
    have hadm : id - r.head < r.N := by have := h.npos; omega
    cases rsv with
    | true => exact hp.elim
    | false => exact .inr ⟨by simpa [Ring.step, hl, hadm, Pub], by simp only [Ring.step, hl, hadm, if_true]; rfl⟩
  case pFetch v' rsv =>
    cases rsv with
    | true => exact hp.elim
    | false => exact .inr ⟨by simpa [Ring.step, hl, Pub], by simp only [Ring.step, hl]; rfl⟩
  case pWrite v' id len => exact .inr ⟨by simpa [Ring.step, hl, Pub], by simp only [Ring.step, hl]; rfl⟩
  case pPublish v' id len =>
    rcases producer_step r t v h (by rw [hl]; exact hp) with hpub | ⟨-, -, _, _, _, e, -⟩ | ⟨hc, ha⟩
    · exact .inl hpub
    · rw [hl] at e; cases e
    · refine .inr ⟨?_, ha⟩
      simp only [Ring.step, hl] at hc ⊢
      split <;> simp [ProdLoc, Pub, *] at hc ⊢

/-! ## tokens -/

/-- token bookkeeping: `L` = the ids inside the two rings, `H t id` = thread `t` holds `id` outside the rings -/
structure Tok (L : List Nat) (H : Nat → Nat → Prop) (N : Nat) : Prop where
  nodup : L.Nodup
  range : ∀ x, x ∈ L → x < N
  hRange : ∀ t id, H t id → id < N
  hFresh : ∀ t id, H t id → id ∉ L
  hUniq : ∀ t t' id, H t id → H t' id → t = t'

/-- thread `t` alone changes what it holds, from `a` to `a'`, while the content of the rings goes from `L` to `L'`: the
    tokens are conserved when `L' ++ a'` is a rearrangement of `L ++ a` -/
theorem Tok.move {L L' : List Nat} {H H' : Nat → Nat → Prop} {N : Nat} (h : Tok L H N) (t : Nat) (a a' : Option Nat)
    (ha : ∀ x ∈ a, H t x) (ha' : ∀ x, H' t x → x ∈ a') (hoth : ∀ u x, u ≠ t → H' u x → H u x)
    (hp : (L' ++ a'.toList).Perm (L ++ a.toList)) : Tok L' H' N := by
  -- `L ++ a` is duplicate-free, below `N`, and disjoint from what the other threads hold; so is its rearrangement
  have hnd : (L' ++ a'.toList).Nodup := hp.nodup_iff.mpr <| List.nodup_append.mpr
    ⟨h.nodup, by cases a <;> simp, fun x hx y hy e => h.hFresh t y (ha y (by simpa using hy)) (e ▸ hx)⟩
  have hlt : ∀ x, x ∈ L' ++ a'.toList → x < N := fun x hx => by
    rcases List.mem_append.mp (hp.mem_iff.mp hx) with hx | hx
    · exact h.range x hx
    · exact h.hRange t x (ha x (by simpa using hx))
  have hfr : ∀ u x, u ≠ t → H u x → x ∉ L' ++ a'.toList := fun u x hu hx hm => by
    rcases List.mem_append.mp (hp.mem_iff.mp hm) with hm | hm
    · exact h.hFresh u x hx hm
    · exact hu (h.hUniq u t x hx (ha x (by simpa using hm)))
  have hin : ∀ x, H' t x → x ∈ L' ++ a'.toList := fun x hx => List.mem_append_right _ (by simpa using ha' x hx)
  have hd := (List.nodup_append.mp hnd).2.2
  refine ⟨(List.nodup_append.mp hnd).1, fun x hx => hlt x (List.mem_append_left _ hx), fun u x hx => ?_,
    fun u x hx hm => ?_, fun u u' x hx hx' => ?_⟩
  · by_cases hu : u = t
    · exact hlt x (hin x (hu ▸ hx))
    · exact h.hRange u x (hoth u x hu hx)
  · by_cases hu : u = t
    · exact hd x hm x (by simpa using ha' x (hu ▸ hx)) rfl
    · exact hfr u x hu (hoth u x hu hx) (List.mem_append_left _ hm)
  · by_cases hu : u = t <;> by_cases hu' : u' = t
    · rw [hu, hu']
    · exact absurd (hin x (hu ▸ hx)) (hfr u' x hu' (hoth u' x hu' hx'))
    · exact absurd (hin x (hu' ▸ hx')) (hfr u x hu (hoth u x hu hx))
    · exact h.hUniq u u' x (hoth u x hu hx) (hoth u' x hu' hx')

/-- the instance of `Tok.move` in which `t`, holding nothing, takes `id` out of the rings -/
theorem Tok.take {L L' : List Nat} {H H' : Nat → Nat → Prop} {N : Nat} (h : Tok L H N) (t id : Nat)
    (hp : L.Perm (id :: L')) (hh : ∀ u x, H' u x → H u x ∨ (u = t ∧ x = id)) (hnone : ∀ x, ¬ H t x) : Tok L' H' N :=
  h.move t none (some id) (by simp) (fun x hx => by simpa [hnone, eq_comm] using hh t x hx)
    (fun u x hu hx => (hh u x hx).resolve_right fun e => hu e.1)
    (by simpa using (List.perm_append_singleton id L').trans hp.symm)

theorem Tok.sub {L L' : List Nat} {H : Nat → Nat → Prop} {N : Nat} (h : Tok L H N) (hs : L'.Sublist L) : Tok L' H N :=
  { h with nodup := hs.nodup h.nodup, range := fun x hx => h.range x (hs.subset hx),
           hFresh := fun t id hi hm => h.hFresh t id hi (hs.subset hm) }

/-- a ring whose pending entries and whose producers in flight all carry distinct tokens `< N` never has more than `N`
    sequence numbers claimed beyond `head`: its fullness test cannot fail -/
theorem ring_room (r : Ring.St) (hI : Ring.Inv r) {N : Nat} {H : Nat → Nat → Prop} (htok : Tok (Ring.abs r) H N)
    (hold : ∀ u k, Ring.holdsP (r.thr u) k → ∃ id, H u id) : r.enqTail ≤ r.head + N := by
  have hlen := Ring.abs_length hI
  have := hI.hHT; have := hI.hTE
  -- the token at sequence number `k`: the entry pending there, or the one in the hands of the thread that claimed `k`
  have hpigeon := le_of_rel_inj (T := N) (a := r.head)
    (R := fun k x => r.head ≤ k ∧ if k < r.tail then (Ring.abs r)[k - r.head]? = some x
                                  else ∃ u, Ring.holdsP (r.thr u) k ∧ H u x)
    (fun k k' x ⟨_, hk⟩ ⟨_, hk'⟩ => ?_) (r.enqTail - r.head) (fun k h1 h2 => ?_)
  · omega
  · by_cases h1 : k < r.tail <;> by_cases h2 : k' < r.tail <;> simp only [h1, h2, if_true, if_false] at hk hk'
    · have := (List.getElem?_inj (by omega) htok.nodup).mp (hk.trans hk'.symm)
      omega
    · obtain ⟨u, -, hu⟩ := hk'
      exact absurd (List.mem_of_getElem? hk) (htok.hFresh u x hu)
    · obtain ⟨u, -, hu⟩ := hk
      exact absurd (List.mem_of_getElem? hk') (htok.hFresh u x hu)
    · obtain ⟨u, hu1, hu⟩ := hk
      obtain ⟨u', hu1', hu'⟩ := hk'
      obtain rfl := htok.hUniq u u' x hu hu'
      exact Ring.holdsP_unique hu1 hu1'
  · by_cases hk : k < r.tail
    · have hlt : k - r.head < (Ring.abs r).length := by omega
      exact ⟨_, htok.range _ (List.getElem_mem hlt), h1, by simp only [hk, if_true]; exact List.getElem?_eq_getElem hlt⟩
    · obtain ⟨u, hu⟩ := hI.pCover k (by omega) (by omega)
      obtain ⟨id, hid⟩ := hold u k hu
      exact ⟨id, htok.hRange u id hid, h1, by simp only [hk, if_false]; exact ⟨u, hu, hid⟩⟩

end Mutiny.ZeroCopy
