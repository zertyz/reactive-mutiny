import Mutiny.Model.MmapLog
import Mutiny.Proofs.Owns

/-!
# Inductive invariant of the `MmapLog` model (M9)

`Inv s`: the publishers between their `fetch_add` and their CAS on `consumer_tail` hold exactly the positions
`[consTail, pubTail)`; a slot is written once, before its position becomes visible; `log` lists the visible positions in
order with the contents of their slots; at its *logical cursor* `c` (its `head`, minus one while its poller is between
the `fetch_add` and the end of the call: `pending`) a subscriber satisfies `SubOk s i c`.

Preservation is proved on a regrouping of the same facts (`Inv.of` and its projections): `Shared` (no thread mentioned),
`LocOK` (the registers of one thread against the shared state; it survives what the other threads do: `LocOK.mono`),
`Owns` (who holds which position), who polls which subscriber (`sid`) with which claim (`pending`).  Every program point
is an instance of `Inv.after`; a new one is classified by hand in `holdsP` and `pid`, `polls` and `sid`, `pending`,
`LocOK` and the model's `tagOf`: their wildcards take it without complaint.  Its register facts are also a flat field of
`Inv`, read by `Inv.loc`, rebuilt by `Inv.of`; `inv_step` and `apply_shape` are the two full case analyses over `Loc`.

`Inv` needs ONE poller per subscriber (`two_pollers_skip`): `inv_apply` assumes `PollOk s a`, `ReachableX` is
reachability by runs all of whose actions satisfy it (`RunOk`); one fixed consumer thread per subscriber suffices
(`runOk_of_owned`).
-/

namespace Mutiny.MmapLog

/-! ## named state transformers (the inline record updates of `step`) -/

def incPub (s : St) : St := { s with pubTail := s.pubTail + 1 }
def wrSlot (s : St) (pos v : Nat) : St :=
  { s with slots := fun p => if p = pos then some v else s.slots p,
           writes := fun p => if p = pos then s.writes p + 1 else s.writes p }
def pubLog (s : St) (pos : Nat) : St :=
  { s with consTail := pos + 1, log := s.log ++ [(pos, (s.slots pos).getD 0)] }
def addSubs (s : St) (l : List Sub) : St := { s with subs := s.subs ++ l }
def deliver (s : St) (x : Nat × Nat × Nat) : St := { s with delivered := s.delivered ++ [x] }

/-- the default subscriber of `getSub` -/
def dflt : Sub := { kind := .dyn, head := 0, start := 0 }

theorem getSub_eq (s : St) (i : Nat) : getSub s i = s.subs.getD i dflt := rfl

section proj
variable (s : St) (t u i h pos v : Nat) (l : Loc) (ls : List Sub) (x : Nat × Nat × Nat)

@[simp] theorem thr_setThr : (setThr s t l).thr u = if u = t then l else s.thr u := rfl
@[simp] theorem slots_setThr : (setThr s t l).slots = s.slots := rfl
@[simp] theorem writes_setThr : (setThr s t l).writes = s.writes := rfl
theorem getSub_setThr : getSub (setThr s t l) i = getSub s i := rfl

@[simp] theorem thr_setHead : (setHead s i h).thr = s.thr := rfl
@[simp] theorem slots_setHead : (setHead s i h).slots = s.slots := rfl
@[simp] theorem writes_setHead : (setHead s i h).writes = s.writes := rfl
theorem length_setHead : (setHead s i h).subs.length = s.subs.length := by simp [setHead]

@[simp] theorem thr_incPub : (incPub s).thr = s.thr := rfl
@[simp] theorem slots_incPub : (incPub s).slots = s.slots := rfl
@[simp] theorem writes_incPub : (incPub s).writes = s.writes := rfl

@[simp] theorem thr_wrSlot : (wrSlot s pos v).thr = s.thr := rfl

@[simp] theorem thr_pubLog : (pubLog s pos).thr = s.thr := rfl
@[simp] theorem slots_pubLog : (pubLog s pos).slots = s.slots := rfl
@[simp] theorem writes_pubLog : (pubLog s pos).writes = s.writes := rfl

@[simp] theorem thr_addSubs : (addSubs s ls).thr = s.thr := rfl
@[simp] theorem slots_addSubs : (addSubs s ls).slots = s.slots := rfl
@[simp] theorem writes_addSubs : (addSubs s ls).writes = s.writes := rfl
theorem length_addSubs : (addSubs s ls).subs.length = s.subs.length + ls.length := by simp [addSubs]

@[simp] theorem thr_deliver : (deliver s x).thr = s.thr := rfl
@[simp] theorem slots_deliver : (deliver s x).slots = s.slots := rfl
@[simp] theorem writes_deliver : (deliver s x).writes = s.writes := rfl

end proj

theorem getSub_setHead (s : St) (i h j : Nat) : getSub (setHead s i h) j =
    if j = i ∧ i < s.subs.length then { getSub s i with head := h } else getSub s j := by
  simp only [getSub, setHead, List.getD_eq_getElem?_getD]
  by_cases e : j = i
  · subst e
    by_cases hi : j < s.subs.length <;> simp [hi]
  · rw [List.getElem?_modify_ne _ _ (Ne.symm e), if_neg (fun c => e c.1)]

theorem kind_setHead (s : St) (i h j : Nat) : (getSub (setHead s i h) j).kind = (getSub s j).kind := by
  rw [getSub_setHead]; split <;> simp_all
theorem start_setHead (s : St) (i h j : Nat) : (getSub (setHead s i h) j).start = (getSub s j).start := by
  rw [getSub_setHead]; split <;> simp_all

theorem getSub_addSubs (s : St) (ls : List Sub) (j : Nat) : getSub (addSubs s ls) j =
    if j < s.subs.length then getSub s j else ls.getD (j - s.subs.length) dflt := by
  simp only [getSub, addSubs, List.getD_eq_getElem?_getD]
  split
  · next hj => rw [List.getElem?_append_left hj]
  · next hj => rw [List.getElem?_append_right (Nat.le_of_not_lt hj)]; rfl

/-! ## who holds which position, who polls which subscriber -/

/-- publishers holding position `k` (between their `fetch_add` and their successful CAS on `consumer_tail`) -/
def holdsP : Loc → Nat → Prop
  | .pWrite _ pos, k => pos = k
  | .pPublish pos, k => pos = k
  | _, _ => False

/-- threads inside a `consume` call of subscriber `k` -/
def polls : Loc → Nat → Prop
  | .cFetch i, k => i = k
  | .cLoadTail i _, k => i = k
  | .cRecede i _, k => i = k
  | .cRead i _, k => i = k
  | _, _ => False

/-- threads inside a `consume` call of subscriber `k` that have incremented its cursor from `c` to `c + 1` and have
    neither given the increment back nor delivered position `c` yet -/
def pending : Loc → Nat → Nat → Prop
  | .cLoadTail i h, k, c => i = k ∧ h = c
  | .cRecede i h, k, c => i = k ∧ h = c
  | .cRead i h, k, c => i = k ∧ h = c
  | _, _, _ => False

theorem pending_polls {l : Loc} {k c : Nat} (h : pending l k c) : polls l k := by
  cases l <;> simp_all [pending, polls]

/-- how far a subscriber's cursor may go; a fixed subscriber's end `ft` was a loaded `consumer_tail`, hence `ft ≤ ct` -/
def Bound (ct : Nat) : SubKind → Nat → Prop
  | .dyn, c => c ≤ ct
  | .fixed ft, c => c ≤ ft ∧ ft ≤ ct

theorem Bound.mono {ct ct' : Nat} {k : SubKind} {c : Nat} (h : Bound ct k c) (hle : ct ≤ ct') : Bound ct' k c := by
  cases k <;> simp_all [Bound] <;> omega

/-- the positions delivered through subscriber `i`, in delivery order -/
def delOf (s : St) (i : Nat) : List Nat := (s.delivered.filter (fun x => x.1 == i)).map (·.2.1)

theorem delOf_deliver (s : St) (i : Nat) (x : Nat × Nat × Nat) :
    delOf (deliver s x) i = if x.1 = i then delOf s i ++ [x.2.1] else delOf s i := by
  simp only [delOf, deliver, List.filter_append, List.map_append]
  by_cases e : x.1 = i <;> simp [e]

/-- subscriber `i` at logical cursor `c`: the positions delivered through `i` are exactly `start, …, c - 1`, in this
    order, each once -/
def SubOk (s : St) (i c : Nat) : Prop :=
  (getSub s i).start ≤ c ∧ Bound s.consTail (getSub s i).kind c ∧
  delOf s i = List.range' (getSub s i).start (c - (getSub s i).start)

theorem SubOk.mono {s s' : St} {i c : Nat} (h : SubOk s i c) (hg : getSub s' i = getSub s i)
    (hd : delOf s' i = delOf s i) (hc : s.consTail ≤ s'.consTail) : SubOk s' i c := by
  unfold SubOk; rw [hg, hd]; exact ⟨h.1, h.2.1.mono hc, h.2.2⟩

structure Inv (s : St) : Prop where
  hCP : s.consTail ≤ s.pubTail
  pRange : ∀ t k, holdsP (s.thr t) k → s.consTail ≤ k ∧ k < s.pubTail
  pUniq : ∀ t1 t2 k, holdsP (s.thr t1) k → holdsP (s.thr t2) k → t1 = t2
  pCover : ∀ k, s.consTail ≤ k → k < s.pubTail → ∃ t, holdsP (s.thr t) k
  wLow : ∀ p, p < s.consTail → s.writes p = 1
  wHigh : ∀ p, s.pubTail ≤ p → s.writes p = 0
  wWrite : ∀ t v pos, s.thr t = .pWrite v pos → s.writes pos = 0
  wPub : ∀ t pos, s.thr t = .pPublish pos → s.writes pos = 1
  slotW : ∀ p, s.slots p = none ↔ s.writes p = 0
  logLen : s.log.length = s.consTail
  logOk : ∀ p, p < s.consTail → ∃ v, s.slots p = some v ∧ s.log[p]? = some (p, v)
  delVal : ∀ x, x ∈ s.delivered → s.log[x.2.1]? = some (x.2.1, x.2.2)
  delIdx : ∀ x, x ∈ s.delivered → x.1 < s.subs.length
  fixedPair : ∀ i ft, i < s.subs.length → (getSub s i).kind = .fixed ft →
    (getSub s i).start = 0 ∧ i + 1 < s.subs.length ∧ (getSub s (i + 1)).kind = .dyn ∧ (getSub s (i + 1)).start = ft
  pollLt : ∀ t i, polls (s.thr t) i → i < s.subs.length
  pollUniq : ∀ t1 t2 i, polls (s.thr t1) i → polls (s.thr t2) i → t1 = t2
  pendOk : ∀ t i h, pending (s.thr t) i h → (getSub s i).head = h + 1 ∧ SubOk s i h
  idleOk : ∀ i, i < s.subs.length → (∀ t h, ¬ pending (s.thr t) i h) → SubOk s i (getSub s i).head
  loadDyn : ∀ t i h, s.thr t = .cLoadTail i h → (getSub s i).kind = .dyn
  readOk : ∀ t i h, s.thr t = .cRead i h → h < s.consTail ∧ ∀ ft, (getSub s i).kind = .fixed ft → h < ft
  recOk : ∀ t i h ft, s.thr t = .cRecede i h → (getSub s i).kind = .fixed ft → ft ≤ h

theorem Inv.pendLt {s : St} (h : Inv s) {t i c : Nat} (hp : pending (s.thr t) i c) : i < s.subs.length :=
  h.pollLt t i (pending_polls hp)

theorem inv_init : Inv init := by
  constructor <;> simp [init, holdsP, polls, pending]

/-! ## the invariant, regrouped -/

/-- `holdsP` and `polls` as functions.  The relations are what `Inv` speaks; state a new lemma with `pid` / `sid`, the
    form `Owns` and `Inj` take (bridges: `holdsP_iff`, `polls_iff`). -/
def pid : Loc → Option Nat
  | .pWrite _ pos | .pPublish pos => some pos
  | _ => none

def sid : Loc → Option Nat
  | .cFetch i | .cLoadTail i _ | .cRecede i _ | .cRead i _ => some i
  | _ => none

theorem holdsP_iff (l : Loc) (k : Nat) : holdsP l k ↔ pid l = some k := by cases l <;> simp [holdsP, pid]
theorem polls_iff {l : Loc} {i : Nat} : polls l i ↔ sid l = some i := by cases l <;> simp [polls, sid]
theorem sid_of_pending {l : Loc} {i c : Nat} (h : pending l i c) : sid l = some i := polls_iff.1 (pending_polls h)

/-- `i` carries a claim on cursor `c` (`pending`): its `head` is one ahead, and at `c` it is in order -/
def Claimed (s : St) (i c : Nat) : Prop := i < s.subs.length ∧ (getSub s i).head = c + 1 ∧ SubOk s i c

def LocOK (s : St) : Loc → Prop
  | .pWrite _ pos => s.writes pos = 0
  | .pPublish pos => s.writes pos = 1
  | .cFetch i => i < s.subs.length
  | .cLoadTail i c => Claimed s i c ∧ (getSub s i).kind = .dyn
  | .cRecede i c => Claimed s i c ∧ ∀ ft, (getSub s i).kind = .fixed ft → ft ≤ c
  | .cRead i c => Claimed s i c ∧ c < s.consTail ∧ ∀ ft, (getSub s i).kind = .fixed ft → c < ft
  | _ => True

structure Shared (s : St) : Prop where
  hCP : s.consTail ≤ s.pubTail
  wLow : ∀ p, p < s.consTail → s.writes p = 1
  wHigh : ∀ p, s.pubTail ≤ p → s.writes p = 0
  slotW : ∀ p, s.slots p = none ↔ s.writes p = 0
  logLen : s.log.length = s.consTail
  logOk : ∀ p, p < s.consTail → ∃ v, s.slots p = some v ∧ s.log[p]? = some (p, v)
  delVal : ∀ x, x ∈ s.delivered → s.log[x.2.1]? = some (x.2.1, x.2.2)
  delIdx : ∀ x, x ∈ s.delivered → x.1 < s.subs.length
  fixedPair : ∀ i ft, i < s.subs.length → (getSub s i).kind = .fixed ft →
    (getSub s i).start = 0 ∧ i + 1 < s.subs.length ∧ (getSub s (i + 1)).kind = .dyn ∧ (getSub s (i + 1)).start = ft

theorem Inv.shared {s : St} (h : Inv s) : Shared s := { h with }

theorem Inv.loc {s : St} (h : Inv s) (t : Nat) : LocOK s (s.thr t) := by
  have cl : ∀ i c, pending (s.thr t) i c → Claimed s i c := fun i c e => ⟨h.pendLt e, h.pendOk t i c e⟩
  cases hl : s.thr t <;> rw [hl] at cl <;> simp only [LocOK]
  case pWrite v pos => exact h.wWrite t v pos hl
  case pPublish pos => exact h.wPub t pos hl
  case cFetch i => exact h.pollLt t i (by rw [hl]; rfl)
  case cLoadTail i c => exact ⟨cl i c ⟨rfl, rfl⟩, h.loadDyn t i c hl⟩
  case cRecede i c => exact ⟨cl i c ⟨rfl, rfl⟩, fun ft => h.recOk t i c ft hl⟩
  case cRead i c => exact ⟨cl i c ⟨rfl, rfl⟩, h.readOk t i c hl⟩

theorem LocOK.claimed {s : St} {l : Loc} {i c : Nat} (h : LocOK s l) (e : pending l i c) : Claimed s i c := by
  cases l <;> obtain ⟨rfl, rfl⟩ := e <;> exact h.1

theorem LocOK.lt {s : St} {l : Loc} {i : Nat} (h : LocOK s l) (e : sid l = some i) : i < s.subs.length := by
  cases l <;> cases e
  case cFetch => exact h
  all_goals exact h.1.1

theorem Inv.producers {s : St} (h : Inv s) : Owns (fun t => pid (s.thr t)) s.consTail s.pubTail :=
  (owns_iff_rel (fun t => holdsP_iff (s.thr t)) _ _).2 ⟨h.pRange, h.pUniq, h.pCover⟩

theorem Inv.pollers {s : St} (h : Inv s) : Inj fun t => sid (s.thr t) :=
  fun t u i e1 e2 => h.pollUniq t u i (polls_iff.2 e1) (polls_iff.2 e2)

theorem Inv.atHead {s : St} (h : Inv s) {i : Nat} (hi : i < s.subs.length) :
    SubOk s i (getSub s i).head ∨ ∃ t c, pending (s.thr t) i c :=
  Classical.or_iff_not_imp_right.2 fun hn => h.idleOk i hi fun t c e => hn ⟨t, c, e⟩

theorem Inv.unclaimed {s : St} (h : Inv s) {t i : Nat} (ht : s.thr t = .cFetch i) (u c : Nat) :
    ¬ pending (s.thr u) i c := fun eu => by
  rw [← h.pollers _ _ _ (congrArg sid ht) (sid_of_pending eu), ht] at eu; exact eu

theorem Inv.of {s : St} (hs : Shared s) (hl : ∀ t, LocOK s (s.thr t))
    (hp : Owns (fun t => pid (s.thr t)) s.consTail s.pubTail)
    (hu : Inj fun t => sid (s.thr t))
    (hq : ∀ i, i < s.subs.length → SubOk s i (getSub s i).head ∨ ∃ t c, pending (s.thr t) i c) : Inv s :=
  have reg : ∀ {t l}, s.thr t = l → LocOK s l := fun e => e ▸ hl _
  have ⟨pRange, pUniq, pCover⟩ := (owns_iff_rel (fun t => holdsP_iff (s.thr t)) _ _).1 hp
  { hs with
    pRange, pUniq, pCover
    wWrite _ _ _ e := reg e
    wPub _ _ e := reg e
    pollLt t _ e := (hl t).lt (polls_iff.1 e)
    pollUniq t u i e1 e2 := hu t u i (polls_iff.1 e1) (polls_iff.1 e2)
    pendOk t _ _ e := ((hl t).claimed e).2
    idleOk i hi hn := (hq i hi).resolve_right fun ⟨t, c, e⟩ => hn t c e
    loadDyn _ _ _ e := (reg e).2
    readOk _ _ _ e := (reg e).2
    recOk _ _ _ ft e := (reg e).2 ft }

theorem LocOK.mono {s s' : St} {l : Loc} (h : LocOK s l) (hc : s.consTail ≤ s'.consTail)
    (hw : ∀ pos, pid l = some pos → s'.writes pos = s.writes pos)
    (hi : ∀ i, sid l = some i → i < s.subs.length →
      getSub s' i = getSub s i ∧ delOf s' i = delOf s i ∧ i < s'.subs.length) : LocOK s' l := by
  have cl : ∀ i c, sid l = some i → Claimed s i c → Claimed s' i c ∧ getSub s' i = getSub s i := fun i c e o => by
    obtain ⟨e1, e2, e3⟩ := hi i e o.1
    exact ⟨⟨e3, e1 ▸ o.2.1, o.2.2.mono e1 e2 hc⟩, e1⟩
  cases l <;> simp only [LocOK] at h ⊢
  case pWrite v pos | pPublish pos => exact (hw pos rfl).trans h
  case cFetch i => exact (hi i rfl h).2.2
  case cLoadTail i c | cRecede i c => obtain ⟨o, e⟩ := cl i c rfl h.1; exact ⟨o, e ▸ h.2⟩
  case cRead i c => obtain ⟨o, e⟩ := cl i c rfl h.1; exact ⟨o, Nat.lt_of_lt_of_le h.2.1 hc, e ▸ h.2.2⟩

theorem pid_setThr (s : St) (t : Nat) (l : Loc) :
    (fun u => pid ((setThr s t l).thr u)) = setHold (fun u => pid (s.thr u)) t (pid l) := by
  funext u; simp only [thr_setThr, setHold]; split <;> rfl

/-! ## what a step has to show

A step of thread `t` leads from `s` to `setThr sh t l`.  Asked for: `Shared sh`, the register facts of `l`, who holds
which position afterwards, and about the subscriber `o` that `t` polled: the one `l` polls is `o` or polled by nobody
(`hu`), and `o` is in order or claimed by `l` (`hown`); both are vacuous (`nofun`) for a thread outside `consume`.
The last five hypotheses default to "untouched" and a call names only what its step changes: `consTail` and the write
counts stay (`hc`, `hw`: at most the slot of `t`'s position is written), the other subscribers stay (`hi`), none is
created (`hnew`).  The defaults are tactic blocks because they typecheck only once `sh` is known. -/

theorem Inv.after {s sh : St} {t : Nat} {l : Loc} {o : Option Nat} (h : Inv s) (hs : Shared sh) (hl : LocOK sh l)
    (hp : Owns (setHold (fun u => pid (s.thr u)) t (pid l)) sh.consTail sh.pubTail) (ho : sid (s.thr t) = o)
    (hu : ∀ i, sid l = some i → o = some i ∨ ∀ u, sid (s.thr u) ≠ some i)
    (hown : ∀ i, o = some i → SubOk sh i (getSub sh i).head ∨ ∃ c, pending l i c)
    (hthr : sh.thr = s.thr := by rfl) (hc : s.consTail ≤ sh.consTail := by exact Nat.le_refl _)
    (hw : ∀ pos, pid (s.thr t) ≠ some pos → sh.writes pos = s.writes pos := by exact fun _ _ => rfl)
    (hi : ∀ j, j < s.subs.length → o ≠ some j →
      getSub sh j = getSub s j ∧ delOf sh j = delOf s j ∧ j < sh.subs.length := by exact fun _ lt _ => ⟨rfl, rfl, lt⟩)
    (hnew : ∀ j, s.subs.length ≤ j → j < sh.subs.length → SubOk sh j (getSub sh j).head := by
      exact fun _ le lt => absurd lt (Nat.not_lt.2 le)) : Inv (setThr sh t l) := by
  subst ho
  have thr' : ∀ u, u ≠ t → (setThr sh t l).thr u = s.thr u := fun u hu => by rw [thr_setThr, if_neg hu, hthr]
  have thr_t : (setThr sh t l).thr t = l := if_pos rfl
  refine Inv.of { hs with } (fun u => ?_) ?_
    (h.pollers.set (fun u ne => by rw [thr' u ne]) (by rw [thr_t]; exact hu))
    fun j hj => ?_
  · by_cases e : u = t
    · rw [e, thr_t]; exact hl
    · rw [thr' u e]
      exact (h.loc u).mono hc (fun pos eu => hw pos fun et => e (h.producers.uniq u t pos eu et))
        fun i eu lt => hi i lt fun et => e (h.pollers _ _ _ eu et)
  · rw [pid_setThr, hthr]; exact hp
  · by_cases eo : sid (s.thr t) = some j
    · exact (hown j eo).imp id fun ⟨c, ec⟩ => ⟨t, c, by rw [thr_t]; exact ec⟩
    · by_cases lt : j < s.subs.length
      · obtain ⟨e1, e2, _⟩ := hi j lt eo
        refine (h.atHead lt).imp (fun ok => ?_) fun ⟨u, c, eu⟩ => ⟨u, c, ?_⟩
        · show SubOk sh j (getSub sh j).head
          rw [e1]; exact ok.mono e1 e2 hc
        · rw [thr' u fun et => eo (et ▸ sid_of_pending eu)]; exact eu
      · exact .inl (hnew j (Nat.le_of_not_lt lt) hj)

/-- thread `t` moves on and the shared state stays; by default `l` holds the position (`hp`), has the claim (`hc`) and
    polls the subscriber (`hs`) that `l₀` did -/
theorem Inv.move {s : St} (h : Inv s) {t : Nat} {l₀ l : Loc} (ht : s.thr t = l₀) (hl : LocOK s l)
    (hp : pid l₀ = pid l := by rfl) (hc : ∀ i c, pending l₀ i c → pending l i c := by exact fun _ _ => id)
    (hs : sid l₀ = sid l ∨ ∀ u, sid (s.thr u) ≠ sid l := by exact .inl rfl) : Inv (setThr s t l) := by
  refine h.after h.shared hl (h.producers.keep (ht ▸ hp)) rfl
    (hu := fun i e => hs.imp (fun e' => by rw [ht, e']; exact e) fun n u => e ▸ n u) (hown := fun i ei => ?_)
  exact (h.atHead ((h.loc t).lt ei)).imp id fun ⟨u, c, eu⟩ =>
    ⟨c, hc i c (by rw [← ht, ← h.pollers _ _ _ (sid_of_pending eu) ei]; exact eu)⟩

theorem subOk_setHead {s : St} {i j h c : Nat} : SubOk (setHead s j h) i c ↔ SubOk s i c := by
  simp only [SubOk, kind_setHead, start_setHead]; rfl

/-- the slot of a position that is handed out and not visible yet is written: no other fact reads it -/
theorem Shared.write {s : St} (hs : Shared s) {pos : Nat} (h1 : s.consTail ≤ pos) (h2 : pos < s.pubTail) (v : Nat) :
    Shared (wrSlot s pos v) := by
  have ne : ∀ p, p < s.consTail ∨ s.pubTail ≤ p → ¬ p = pos := by omega
  refine { hs with
    wLow := fun p lt => (if_neg (ne p (.inl lt))).trans (hs.wLow p lt)
    wHigh := fun p le => (if_neg (ne p (.inr le))).trans (hs.wHigh p le)
    slotW := fun p => ?_
    logOk := fun p lt => by
      rw [show (wrSlot s pos v).slots p = s.slots p from if_neg (ne p (.inl lt))]; exact hs.logOk p lt }
  show (if p = pos then some v else _) = none ↔ (if p = pos then _ else _) = 0
  split
  · simp
  · exact hs.slotW p

theorem Shared.written {s : St} (hs : Shared s) {p : Nat} (hw : s.writes p = 1) : ∃ v, s.slots p = some v :=
  Option.ne_none_iff_exists'.mp fun n => by have := (hs.slotW p).1 n; omega

theorem Shared.publish {s : St} (hs : Shared s) (hw : s.writes s.consTail = 1) (lt : s.consTail < s.pubTail) :
    Shared (pubLog s s.consTail) := by
  refine { hs with
    hCP := lt, wLow := fun p (_ : p < s.consTail + 1) => ?_
    logLen := (List.length_append ..).trans (congrArg (· + 1) hs.logLen)
    logOk := fun p (_ : p < s.consTail + 1) => ?_
    delVal := fun x hx => getElem?_append_of_some (hs.delVal x hx) }
  · by_cases e : p = s.consTail
    · rw [e]; exact hw
    · exact hs.wLow p (by omega)
  · show ∃ w, s.slots p = some w ∧ (s.log ++ [(s.consTail, (s.slots s.consTail).getD 0)])[p]? = some (p, w)
    by_cases e : p = s.consTail
    · subst e
      obtain ⟨w, ew⟩ := hs.written hw
      exact ⟨w, ew, by rw [← hs.logLen, List.getElem?_concat_length, hs.logLen, ew]; rfl⟩
    · obtain ⟨w, h1, h2⟩ := hs.logOk p (by omega)
      exact ⟨w, h1, getElem?_append_of_some h2⟩

theorem Shared.setHead {s : St} (hs : Shared s) (i h : Nat) : Shared (setHead s i h) :=
  { hs with
    delIdx := fun x hx => by rw [length_setHead]; exact hs.delIdx x hx
    fixedPair := by simpa only [length_setHead, kind_setHead, start_setHead] using hs.fixedPair }

/-- the poller `t` of subscriber `i` sets its cursor to `hd`: `l` has a claim on `i`, or `i` is in order at `hd` -/
theorem Inv.cursor {s : St} (h : Inv s) {t i hd : Nat} {l : Loc} (hq : sid (s.thr t) = some i)
    (hp : pid (s.thr t) = pid l) (hs : sid l = some i ∨ sid l = none) (hl : LocOK (setHead s i hd) l)
    (ho : SubOk s i hd ∨ ∃ c, pending l i c) : Inv (setThr (setHead s i hd) t l) := by
  refine h.after (h.shared.setHead ..) hl (h.producers.keep hp) hq
    (hu := fun j e => .inl (hs.elim (fun e' => e'.symm.trans e) fun e' => nomatch e'.symm.trans e))
    (hown := fun _ e => Option.some.inj e ▸ ho.imp (fun ok => ?_) id)
    (hi := fun j lt ne =>
      ⟨by rw [getSub_setHead, if_neg fun e => ne (congrArg some e.1.symm)], rfl, by rwa [length_setHead]⟩)
    (hnew := fun _ le lt => absurd (length_setHead .. ▸ lt) (Nat.not_lt.2 le))
  rw [getSub_setHead, if_pos ⟨rfl, (h.loc t).lt hq⟩]; exact subOk_setHead.2 ok

theorem SubOk.deliver {s : St} {i c v : Nat} (h : SubOk s i c) (hc : c < s.consTail)
    (hf : ∀ ft, (getSub s i).kind = .fixed ft → c < ft) : SubOk (deliver s (i, c, v)) i (c + 1) := by
  obtain ⟨m1, m2, m3⟩ := h
  refine ⟨Nat.le_succ_of_le m1, ?_, ?_⟩
  · show Bound s.consTail (getSub s i).kind (c + 1)
    cases hk : (getSub s i).kind with
    | dyn => exact hc
    | fixed ft => rw [hk] at m2; exact ⟨hf ft hk, m2.2⟩
  · rw [delOf_deliver, if_pos rfl, m3]
    show _ = List.range' (getSub s i).start (c + 1 - (getSub s i).start)
    rw [Nat.succ_sub m1, List.range'_1_concat, Nat.add_sub_cancel' m1]

theorem getSub_addSubs_add (s : St) (ls : List Sub) (k : Nat) :
    getSub (addSubs s ls) (s.subs.length + k) = ls.getD k dflt := by
  rw [getSub_addSubs, if_neg (by omega), Nat.add_sub_cancel_left]

/-- entry `k` of `ls` is a subscriber as `subscribe_*` creates them: at its start, within its bound, a fixed one
    followed by its dynamic partner (beyond the end of `ls` this speaks of `dflt`, which is such a subscriber) -/
structure Fresh (ct : Nat) (ls : List Sub) (k : Nat) : Prop where
  head : (ls.getD k dflt).head = (ls.getD k dflt).start
  bound : Bound ct (ls.getD k dflt).kind (ls.getD k dflt).head
  pair : ∀ ft, (ls.getD k dflt).kind = .fixed ft → (ls.getD k dflt).start = 0 ∧ k + 1 < ls.length ∧
    (ls.getD (k + 1) dflt).kind = .dyn ∧ (ls.getD (k + 1) dflt).start = ft

theorem fresh_dyn {ct c : Nat} (hc : c ≤ ct) : ∀ k, Fresh ct [{ kind := .dyn, head := c, start := c }] k
  | 0 => ⟨rfl, hc, nofun⟩
  | _ + 1 => ⟨rfl, Nat.zero_le _, nofun⟩

theorem fresh_split {ct c : Nat} (hc : c ≤ ct) :
    ∀ k, Fresh ct [{ kind := .fixed c, head := 0, start := 0 }, { kind := .dyn, head := c, start := c }] k
  | 0 => ⟨rfl, ⟨Nat.zero_le _, hc⟩, fun ft e => by cases e; exact ⟨rfl, Nat.lt_succ_self 1, rfl, rfl⟩⟩
  | 1 => ⟨rfl, hc, nofun⟩
  | _ + 2 => ⟨rfl, Nat.zero_le _, nofun⟩

theorem Inv.subscribe {s : St} (h : Inv s) {t : Nat} {ls : List Sub} (r : Res) (hp : pid (s.thr t) = none)
    (hq : sid (s.thr t) = none) (hf : ∀ k, Fresh s.consTail ls k) : Inv (setThr (addSubs s ls) t (.done r)) := by
  have hs := h.shared
  have old : ∀ j, j < s.subs.length → getSub (addSubs s ls) j = getSub s j := fun j lt => by
    rw [getSub_addSubs, if_pos lt]
  have le : s.subs.length ≤ (addSubs s ls).subs.length := by rw [length_addSubs]; exact Nat.le_add_right ..
  refine h.after
    { hs with delIdx := fun x hx => Nat.lt_of_lt_of_le (hs.delIdx x hx) le, fixedPair := fun j ft lt hk => ?_ }
    trivial (h.producers.keep hp) hq (hu := nofun) (hown := nofun)
    (hi := fun j lt _ => ⟨old j lt, rfl, Nat.lt_of_lt_of_le lt le⟩) (hnew := fun j ge lt => ?_)
  · by_cases e : j < s.subs.length
    · rw [old j e] at hk ⊢
      obtain ⟨a, b, c, d⟩ := hs.fixedPair j ft e hk
      rw [old _ b]; exact ⟨a, Nat.lt_of_lt_of_le b le, c, d⟩
    · obtain ⟨k, rfl⟩ := Nat.exists_eq_add_of_le (Nat.le_of_not_lt e)
      rw [getSub_addSubs_add] at hk
      rw [getSub_addSubs_add, Nat.add_assoc, getSub_addSubs_add, length_addSubs]
      obtain ⟨a, b, c, d⟩ := (hf k).pair ft hk
      exact ⟨a, Nat.add_lt_add_left b _, c, d⟩
  · obtain ⟨k, rfl⟩ := Nat.exists_eq_add_of_le ge
    -- nothing has been delivered through a subscriber that did not exist
    have : delOf (addSubs s ls) (s.subs.length + k) = [] := by
      simp only [delOf, List.map_eq_nil_iff, List.filter_eq_nil_iff]
      intro x hx; have := hs.delIdx x hx; simp; omega
    unfold SubOk
    rw [this, getSub_addSubs_add, (hf k).head, Nat.sub_self]
    exact ⟨Nat.le_refl _, (hf k).head ▸ (hf k).bound, rfl⟩

theorem inv_step (s : St) (t : Nat) (h : Inv s) : Inv (step s t) := by
  have hs := h.shared
  have hl := h.loc t
  -- `hp : pid (s.thr t) = pid (.pFetch v)` and the like (right side `none` / `some pos` by unfolding), as a `have` of
  -- its own: inline, `h.producers.keep (congrArg pid ht)` expects `ht` to speak of the NEW location
  cases ht : s.thr t <;> rw [ht] at hl <;> simp only [step, ht, LocOK] at hl ⊢
  all_goals have hp := congrArg pid ht
  all_goals have hq := congrArg sid ht
  case idle | done => exact h
  case pFetch v =>
    exact h.after { hs with hCP := Nat.le_succ_of_le hs.hCP, wHigh := fun p lt => hs.wHigh p (Nat.le_of_succ_le lt) }
      (hs.wHigh _ (Nat.le_refl _)) (h.producers.claim hs.hCP hp) hq (hu := nofun) (hown := nofun)
  case pWrite v pos =>
    have me := h.producers.range t pos hp
    exact h.after (hs.write me.1 me.2 v) ((if_pos rfl).trans (congrArg (· + 1) hl)) (h.producers.keep hp) hq
      (hu := nofun) (hown := nofun) (hw := fun p ne => if_neg fun e => ne (by rw [e]; exact hp))
  case pPublish pos =>
    split
    · next he =>
      subst he
      exact h.after (hs.publish hl (h.producers.range t _ hp).2) trivial (h.producers.pass hp) hq
        (hu := nofun) (hown := nofun) (hc := Nat.le_succ _)
    · exact h
  case sLoad b =>
    split
    · exact h.subscribe _ hp hq (fresh_split (Nat.le_refl _))
    · exact h.subscribe _ hp hq (fresh_dyn (Nat.le_refl _))
  case cFetch i =>
    have me := (h.atHead hl).resolve_right fun ⟨u, c, eu⟩ => h.unclaimed ht u c eu
    -- the `fetch_add` gives `t` the claim on the old `head`; the branches are the model's comparison of that `head`
    -- with the subscriber's bound, which is what `LocOK` of the next location records beside the claim
    have cl : Claimed (setHead s i ((getSub s i).head + 1)) i (getSub s i).head :=
      ⟨by rwa [length_setHead], by rw [getSub_setHead, if_pos ⟨rfl, hl⟩], subOk_setHead.2 me⟩
    split
    · next hk => exact h.cursor hq hp (.inl rfl) ⟨cl, by rw [kind_setHead]; exact hk⟩ (.inr ⟨_, rfl, rfl⟩)
    · next ft hk =>
      have b : (getSub s i).head ≤ ft ∧ ft ≤ s.consTail := by have := me.2.1; rwa [hk] at this
      split
      · next ge =>
        exact h.cursor hq hp (.inl rfl)
          ⟨cl, fun ft' e => by rw [kind_setHead, hk] at e; cases e; exact ge⟩ (.inr ⟨_, rfl, rfl⟩)
      · next lt =>
        exact h.cursor hq hp (.inl rfl)
          ⟨cl, show _ < s.consTail by omega, fun ft' e => by rw [kind_setHead, hk] at e; cases e; omega⟩
          (.inr ⟨_, rfl, rfl⟩)
  case cLoadTail i c =>
    obtain ⟨claimed, dyn⟩ := hl
    split
    · exact h.move ht ⟨claimed, fun _ e => nomatch dyn ▸ e⟩
    · exact h.move ht ⟨claimed, by omega, fun _ e => nomatch dyn ▸ e⟩
  case cRecede i c =>
    obtain ⟨_, head, ok⟩ := hl.1
    rw [if_pos head]
    exact h.cursor hq hp (.inr rfl) trivial (.inl ok)
  case cRead i c =>
    -- the claim on `c` is redeemed: `c` is delivered with the log's value, and `i` is in order at its `head = c + 1`
    obtain ⟨⟨len, head, ok⟩, vis, below⟩ := hl
    obtain ⟨w, hw1, hw2⟩ := hs.logOk c vis
    exact h.after (sh := deliver s (i, c, _))
      { hs with
        delVal := fun x hx => (List.mem_append.1 hx).elim (hs.delVal x) fun e => by
          rw [List.mem_singleton.1 e, hw1]; exact hw2
        delIdx := fun x hx => (List.mem_append.1 hx).elim (hs.delIdx x) fun e => by
          rw [List.mem_singleton.1 e]; exact len }
      trivial (h.producers.keep hp) hq (hu := nofun)
      (hown := fun _ e => Option.some.inj e ▸ .inl (head ▸ ok.deliver vis below))
      (hi := fun j lt ne => ⟨rfl, by rw [delOf_deliver, if_neg fun (e : i = j) => ne (e ▸ rfl)], lt⟩)

/-- the side condition of one action: a poll of subscriber `i` starts only while no thread is inside a poll of `i`
    (every subscriber has ONE consumer; see `two_pollers_skip` for what happens otherwise) -/
def PollOk (s : St) (a : Act) : Prop :=
  ∀ t i, a = .poll t i → s.thr t = .idle → ∀ u, ¬ polls (s.thr u) i

theorem inv_apply (s : St) (a : Act) (h : Inv s) (hok : PollOk s a) : Inv (apply s a) := by
  cases a <;> simp only [apply]
  case step t => exact inv_step s t h
  case send t _ | subNew t | subSplit t | ack t =>
    split
    · next ht => exact h.move ht trivial
    · exact h
  case subJoined t =>
    split
    · next ht => exact h.subscribe _ (congrArg pid ht) (congrArg sid ht) (fresh_dyn (Nat.zero_le _))
    · exact h
  case poll t i =>
    split
    · next ht =>
      -- `t` enters `consume` without a claim; that nobody else polls `i` is what `PollOk` is for
      exact h.move ht.1 ht.2 (hc := nofun) (hs := .inr fun u e => hok t i rfl ht.1 u (polls_iff.2 e))
    · exact h

def RunOk (s : St) : List Act → Prop
  | [] => True
  | a :: as => PollOk s a ∧ RunOk (apply s a) as

@[simp] theorem run_nil (s : St) : run s [] = s := rfl
@[simp] theorem run_cons (s : St) (a : Act) (as : List Act) : run s (a :: as) = run (apply s a) as := rfl
theorem run_append (s : St) (as bs : List Act) : run s (as ++ bs) = run (run s as) bs := by
  simp [run, List.foldl_append]

theorem runOk_append (s : St) (as bs : List Act) : RunOk s (as ++ bs) ↔ RunOk s as ∧ RunOk (run s as) bs := by
  induction as generalizing s with
  | nil => simp [RunOk]
  | cons a as ih => simp [RunOk, ih, and_assoc]

theorem inv_run (s : St) (as : List Act) (h : Inv s) (hok : RunOk s as) : Inv (run s as) :=
  foldl_of_ok (ok := RunOk) (fun s a _ h hok => ⟨inv_apply s a h hok.1, hok.2⟩) as s h hok

/-- reachable by an execution in which every subscriber is polled by one thread at a time -/
def ReachableX (s : St) : Prop := ∃ as, RunOk init as ∧ s = run init as

theorem ReachableX.reachable {s : St} (h : ReachableX s) : Reachable s := by
  obtain ⟨as, _, e⟩ := h; exact ⟨as, e⟩

theorem reachable_inv {s : St} (h : ReachableX s) : Inv s := by
  obtain ⟨as, hok, rfl⟩ := h
  exact inv_run _ _ inv_init hok

theorem ReachableX.init : ReachableX init := ⟨[], trivial, rfl⟩

theorem ReachableX.run {s : St} (h : ReachableX s) (as : List Act) (hok : RunOk s as) : ReachableX (run s as) := by
  obtain ⟨as₀, hr, rfl⟩ := h
  exact ⟨as₀ ++ as, (runOk_append ..).2 ⟨hr, hok⟩, (run_append ..).symm⟩

theorem ReachableX.apply {s : St} (h : ReachableX s) (a : Act) (hok : PollOk s a) : ReachableX (apply s a) :=
  h.run [a] ⟨hok, trivial⟩

/-! ## what an action writes -/

inductive Upd (s : St) : St → Prop
  | none : Upd s s
  | incPub : Upd s (incPub s)
  | wrSlot {t v pos : Nat} : s.thr t = .pWrite v pos → Upd s (wrSlot s pos v)
  | pubLog : Upd s (pubLog s s.consTail)
  | addSubs (ls : List Sub) : Upd s (addSubs s ls)
  | setHead (i h : Nat) : Upd s (setHead s i h)
  | deliver (x : Nat × Nat × Nat) : Upd s (deliver s x)

theorem Upd.thr {s s1 : St} (h : Upd s s1) : s1.thr = s.thr := by cases h <;> rfl

def Act.thread : Act → Nat
  | .send t _ | .subNew t | .subSplit t | .subJoined t | .poll t _ | .step t | .ack t => t

theorem apply_shape (s : St) (a : Act) : apply s a = s ∨ ∃ s1 l, Upd s s1 ∧ apply s a = setThr s1 a.thread l ∧
    ∀ i, polls l i → polls (s.thr a.thread) i ∨ a = .poll a.thread i := by
  cases a <;> simp only [apply, Act.thread]
  case step t =>
    cases hl : s.thr t <;> simp only [step, hl]
    case idle | done => exact .inl trivial
    case pFetch v => exact .inr ⟨_, _, .incPub, rfl, nofun⟩
    case pWrite v pos => exact .inr ⟨_, _, .wrSlot hl, rfl, nofun⟩
    case pPublish pos =>
      split
      · next he => subst he; exact .inr ⟨_, _, .pubLog, rfl, nofun⟩
      · exact .inl rfl
    case sLoad b => split <;> exact .inr ⟨_, _, .addSubs _, rfl, nofun⟩
    case cFetch j =>
      split
      · exact .inr ⟨_, _, .setHead _ _, rfl, fun _ e => .inl e⟩
      · split <;> exact .inr ⟨_, _, .setHead _ _, rfl, fun _ e => .inl e⟩
    case cLoadTail j c => split <;> exact .inr ⟨_, _, .none, rfl, fun _ e => .inl e⟩
    case cRecede j c =>
      split
      · exact .inr ⟨_, _, .setHead _ _, rfl, nofun⟩
      · exact .inl rfl
    case cRead j c => exact .inr ⟨_, _, .deliver _, rfl, nofun⟩
  case subJoined t =>
    split
    · exact .inr ⟨_, _, .addSubs _, rfl, nofun⟩
    · exact .inl rfl
  case poll t j =>
    split
    · exact .inr ⟨_, _, .none, rfl, fun i (e : j = i) => .inr (e ▸ rfl)⟩
    · exact .inl rfl
  case send | subNew | subSplit | ack =>
    split
    · exact .inr ⟨_, _, .none, rfl, nofun⟩
    · exact .inl rfl

theorem polls_apply (s : St) (a : Act) (u i : Nat) (h : polls ((apply s a).thr u) i) :
    polls (s.thr u) i ∨ a = .poll u i := by
  rcases apply_shape s a with e | ⟨s1, l, hu, e, hl⟩ <;> rw [e] at h
  · exact .inl h
  · rw [thr_setThr, hu.thr] at h
    split at h
    · next e => subst e; exact hl i h
    · exact .inl h

def Owned (owner : Nat → Nat) (as : List Act) : Prop := ∀ t i, Act.poll t i ∈ as → t = owner i

def ownedCheck (owner : Nat → Nat) (as : List Act) : Bool :=
  as.all fun a => match a with
    | .poll t i => t == owner i
    | _ => true

theorem owned_of_check {owner : Nat → Nat} {as : List Act} (h : ownedCheck owner as = true) : Owned owner as := by
  intro t i hm
  simpa using List.all_eq_true.mp h _ hm

theorem runOk_of_owned_aux (owner : Nat → Nat) (s : St) (as : List Act)
    (hs : ∀ u i, polls (s.thr u) i → u = owner i) (ho : Owned owner as) : RunOk s as := by
  induction as generalizing s with
  | nil => trivial
  | cons a as ih =>
    refine ⟨fun t i e hidle u hu => ?_, ih _ (fun u i hu => ?_) fun t i hm => ho t i (.tail _ hm)⟩
    · -- whoever polls `i` is its owner `t`, which is idle
      rw [(hs u i hu).trans (ho t i (e ▸ .head _)).symm, hidle] at hu; exact hu
    · exact (polls_apply s a u i hu).elim (hs u i) fun e => ho u i (e ▸ .head _)

theorem runOk_of_owned (owner : Nat → Nat) (as : List Act) (ho : Owned owner as) : RunOk init as :=
  runOk_of_owned_aux owner init as (by intro u i h; simp [init, polls] at h) ho

/-- The reason for `PollOk`.  A joined subscriber (id 0) of an empty log is polled by threads 1 and 2 concurrently:
    thread 1 claims cursor 0, finds nothing and is about to give the claim back (CAS `1 → 0`); thread 2 claims cursor 1;
    two events are published; thread 2 sees `1 < consumer_tail` and delivers position 1. -/
def skipRun : List Act :=
  [.subJoined 0, .ack 0, .poll 1 0, .step 1, .step 1, .poll 2 0, .step 2,
   .send 0 7, .step 0, .step 0, .step 0, .ack 0, .send 0 8, .step 0, .step 0, .step 0, .ack 0, .step 2, .step 2]

/-- after `skipRun`, position 0 (value 7) has not been delivered to the subscriber and never will be (its cursor is at
    2), and thread 1 waits for the cursor to become 1 again: its step is a no-op.  `Inv` does not hold. -/
theorem two_pollers_skip :
    let s := run init skipRun
    Reachable s ∧ s.log = [(0, 7), (1, 8)] ∧ s.delivered = [(0, 1, 8)] ∧ (getSub s 0).head = 2 ∧
      s.thr 1 = .cRecede 0 0 ∧ s.thr 2 = .done (.item (some 8)) ∧ step s 1 = s ∧ ¬ Inv s := by
  intro s
  have h1 : s.thr 1 = .cRecede 0 0 := by decide
  have hh : (getSub s 0).head = 2 := by decide
  refine ⟨⟨skipRun, rfl⟩, by decide, by decide, hh, h1, by decide, ?_, ?_⟩
  · simp only [step, h1]; rw [if_neg (by rw [hh]; decide)]
  · intro hi
    have := (hi.pendOk 1 0 0 (by simp [h1, pending])).1
    omega

end Mutiny.MmapLog

#print axioms Mutiny.MmapLog.reachable_inv
#print axioms Mutiny.MmapLog.runOk_of_owned
#print axioms Mutiny.MmapLog.two_pollers_skip
