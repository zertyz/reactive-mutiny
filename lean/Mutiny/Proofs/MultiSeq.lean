import Mutiny.Proofs.MultiStep
import Mutiny.Proofs.Basic

/-!
# `Multi` model (M6 + M7): completed operations, sequential histories, the bookkeeping invariant `WF`

One call run to completion on one thread with nobody interleaving (`callCreate` …, an action list given to `run`) has a
closed form `spec…` (`callCreate_eq` …).  `WF`, quiescent well-formedness, is preserved by every completed operation;
`exec1_cases` / `exec_ind` are the case analysis and the induction behind every invariant of sequential histories, here
`Fresh` (vacant ids have empty queues — needs `drains = true`) and the delivery accounting behind `c10_lifetime`.
-/

namespace Mutiny.Multi

/-! ## `sync_vacant_and_used_streams` run to completion -/

/-- the non-vacant ids, ascending -/
def usedIds (mx : Nat) (vacant : List Nat) : List Nat := (List.range mx).filter (fun i => !vacant.contains i)

theorem syncPlan_eq (mx : Nat) (v : List Nat) :
    syncPlan mx v = usedIds mx v ++ List.replicate (mx - (usedIds mx v).length) mx := rfl

theorem usedIds_length_le (mx : Nat) (v : List Nat) : (usedIds mx v).length ≤ mx := by
  have := List.length_filter_le (fun i => !v.contains i) (List.range mx)
  simpa [usedIds] using this

@[simp] theorem syncPlan_length (mx : Nat) (v : List Nat) : (syncPlan mx v).length = mx := by
  have := usedIds_length_le mx v
  simp [syncPlan_eq]; omega

theorem mem_usedIds {mx : Nat} {v : List Nat} {i : Nat} : i ∈ usedIds mx v ↔ i < mx ∧ i ∉ v := by
  simp [usedIds]

theorem usedIds_nodup (mx : Nat) (v : List Nat) : (usedIds mx v).Nodup :=
  List.Nodup.sublist List.filter_sublist List.nodup_range

theorem take_succ_set {l : List Nat} {i x : Nat} (h : i < l.length) :
    (l.set i x).take (i + 1) = l.take i ++ [x] := by
  rw [List.set_eq_take_append_cons_drop, if_pos h, List.take_append, List.take_take]
  simp [Nat.min_eq_left (Nat.le_of_lt h)]

theorem stepN_yWrite (t : Nat) (r : Res) : ∀ (rest : List Nat) (s : St) (i : Nat), rest ≠ [] →
    i + rest.length = s.used.length →
    stepN t rest.length (setThr s t (.yWrite r i rest)) =
      setThr { s with used := s.used.take i ++ rest, slock := false } t (.done r)
  | [], _, _, h, _ => absurd rfl h
  | [x], s, i, _, hl => by
    have hi : i < s.used.length := by simp at hl; omega
    show step _ t = _
    rw [step_at_yWrite_last, ← take_succ_set hi, List.take_of_length_le (by simp at hl ⊢; omega)]
  | x :: y :: more, s, i, _, hl => by
    have hi : i < s.used.length := by simp at hl; omega
    rw [List.length_cons, stepN_succ, step_at_yWrite, stepN_yWrite t r (y :: more) _ (i + 1) (by simp)
      (by simp at hl ⊢; omega)]
    show setThr { s with used := (s.used.set i x).take (i + 1) ++ y :: more, slock := false } t _ = _
    rw [take_succ_set hi, List.append_assoc]; rfl

theorem stepN_sync {s : St} {t : Nat} {r : Res} (hl : s.slock = false) (hu : s.used.length = s.MAX) (hm : 0 < s.MAX)
    (k : Nat) (hk : s.MAX + 2 ≤ k) :
    stepN t k (setThr s t (.yLock r)) =
      setThr { s with used := syncPlan s.MAX s.vacant, slock := false } t (.done r) := by
  obtain ⟨x, xs, hp⟩ := List.exists_cons_of_ne_nil (List.ne_nil_of_length_pos (syncPlan_length s.MAX s.vacant ▸ hm))
  have h3 := stepN_yWrite t r (syncPlan s.MAX s.vacant) { s with slock := true } 0
    (by rw [hp]; exact List.cons_ne_nil _ _) (by rw [Nat.zero_add, syncPlan_length]; exact hu.symm)
  rw [syncPlan_length] at h3
  refine stepN_of_done (a := 2 + s.MAX) (r := r) ?_ (thr_setThr_self ..) k (by omega)
  rw [stepN_add]
  show stepN t _ (step (step _ t) t) = _
  rw [step_at_lock (.inl rfl), hl, if_neg Bool.false_ne_true, step_at_yPeek (s := { s with slock := true }) hp, ← hp,
    h3]
  rfl

/-! ## completed operations -/

/-- one `create_stream_id` call run to completion on thread `t` (fuel `MAX + 6` ≥ the `MAX + 5` steps of the call) -/
def callCreate (t : Nat) (s : St) : St := run s (.create t :: List.replicate (s.MAX + 6) (.step t))
/-- `callCreate`, then the `.ack` that makes the thread idle again -/
def opCreate (t : Nat) (s : St) : St := apply (callCreate t s) (.ack t)

def callDrop (t id : Nat) (s : St) : St := run s (.drop t id :: List.replicate (s.MAX + 6) (.step t))
def opDrop (t id : Nat) (s : St) : St := apply (callDrop t id s) (.ack t)

def callSend (t ev : Nat) (s : St) : St := run s (.send t ev :: List.replicate (s.MAX + 6) (.step t))
def opSend (t ev : Nat) (s : St) : St := apply (callSend t ev s) (.ack t)

def callPoll (t id : Nat) (s : St) : St := run s (.poll t id :: List.replicate (s.MAX + 6) (.step t))
def opPoll (t id : Nat) (s : St) : St := apply (callPoll t id s) (.ack t)

theorem opCreate_eq_run (t : Nat) (s : St) :
    opCreate t s = run s ([.create t] ++ List.replicate (s.MAX + 6) (.step t) ++ [.ack t]) := by
  simp [opCreate, callCreate, run_append]

def specCreate (s : St) (j : Nat) (rest : List Nat) : St :=
  { s with count := s.count + 1, vacant := rest, keep := fun i => if i = j then true else s.keep i,
           live := s.live ++ [j], inc := fun i => if i = j then s.inc i + 1 else s.inc i,
           used := syncPlan s.MAX rest, slock := false }

theorem callCreate_eq {s : St} {t j : Nat} {rest : List Nat} (hi : s.thr t = .idle) (hl : s.slock = false)
    (hu : s.used.length = s.MAX) (hv : s.vacant = j :: rest) (hm : 0 < s.MAX) :
    callCreate t s = setThr (specCreate s j rest) t (.done (.id j)) := by
  simp only [callCreate, run_cons, run_replicate_step, apply, hi, if_pos]
  rw [show s.MAX + 6 = 3 + (s.MAX + 3) by omega, stepN_add]
  show stepN t _ (step (step (step _ t) t) t) = _
  rw [step_at_cCount, step_at_cVacant (s := { s with count := s.count + 1 }) hv, step_at_cFlag]
  -- `by exact` postpones the arguments: the `s` of `stepN_sync` is then read off the goal's `{ s with … }`, where
  -- `hl`, `hu`, `hm` fit by unfolding; given outright they would fix it to the present `s`
  exact stepN_sync (by exact hl) (by exact hu) (by exact hm) _ (Nat.le_add_right _ 1)

def specDrop (s : St) (id : Nat) : St :=
  { s with live := s.live.erase id, count := s.count - 1, vacant := s.vacant ++ [id],
           used := syncPlan s.MAX (s.vacant ++ [id]), slock := false,
           queues := if s.drains then (fun j => if j = id then [] else s.queues j) else s.queues,
           refs := if s.drains then (fun e => s.refs e - (s.queues id).count e) else s.refs }

/-- `report_stream_dropped` from `sm.drop.count` on -/
theorem stepN_dCount {s : St} {t id : Nat} (hl : s.slock = false) (hu : s.used.length = s.MAX) (hm : 0 < s.MAX)
    (k : Nat) (hk : s.MAX + 4 ≤ k) :
    stepN t k (setThr s t (.dCount id)) =
      setThr { s with count := s.count - 1, vacant := s.vacant ++ [id], used := syncPlan s.MAX (s.vacant ++ [id]),
                      slock := false } t (.done .unit) := by
  obtain ⟨j, rfl⟩ := Nat.exists_eq_add_of_le (show 2 ≤ k by omega)
  rw [stepN_add]
  show stepN t _ (step (step _ t) t) = _
  rw [step_at_dCount, step_at_dVacant]
  exact stepN_sync (by exact hl) (by exact hu) (by exact hm) _ (by show s.MAX + 2 ≤ j; omega)

theorem callDrop_eq {s : St} {t id : Nat} (hi : s.thr t = .idle) (hl : s.slock = false)
    (hu : s.used.length = s.MAX) (hid : id ∈ s.live) (hm : 0 < s.MAX) :
    callDrop t id s = setThr (specDrop s id) t (.done .unit) := by
  simp only [callDrop, run_cons, run_replicate_step, apply, hi, hid, and_self, if_pos, specDrop]
  by_cases hd : s.drains = true
  · simp only [if_pos hd]
    rw [stepN_succ, step_at_dDrain]
    exact stepN_dCount (by exact hl) (by exact hu) (by exact hm) _ (Nat.add_le_add_left (by decide) _)
  · simp only [if_neg hd]
    exact stepN_dCount (by exact hl) (by exact hu) (by exact hm) _ (Nat.add_le_add_left (by decide) _)

def specPoll (s : St) (id : Nat) : St :=
  match s.queues id with
  | ev :: rest => { s with queues := fun j => if j = id then rest else s.queues j,
                           delivered := s.delivered ++ [(id, s.inc id, ev)] }
  | [] => s

theorem callPoll_eq {s : St} {t id : Nat} (hi : s.thr t = .idle) :
    callPoll t id s = setThr (specPoll s id) t (.done (.item (s.queues id).head?)) := by
  simp only [callPoll, run_cons, run_replicate_step, apply, hi, if_pos]
  refine stepN_of_done (a := 1) (r := .item (s.queues id).head?) ?_ (thr_setThr_self ..) _ (by omega)
  show step _ t = _
  cases hq : s.queues id with
  | nil => simp only [step_at_pPoll_nil hq, specPoll, hq, List.head?_nil]
  | cons ev rest => simp only [step_at_pPoll hq, specPoll, hq, List.head?_cons]

/-! ### fan-out -/

def pubAll (s : St) (ev : Nat) (l : List Nat) : St :=
  { s with queues := fun j => s.queues j ++ List.replicate (l.count j) ev,
           pubs := s.pubs ++ l.map (fun id => (ev, id)) }

theorem MAX_pubAll (s : St) (ev : Nat) (l : List Nat) : (pubAll s ev l).MAX = s.MAX := rfl
theorem N_pubAll (s : St) (ev : Nat) (l : List Nat) : (pubAll s ev l).N = s.N := rfl
theorem flavor_pubAll (s : St) (ev : Nat) (l : List Nat) : (pubAll s ev l).flavor = s.flavor := rfl
theorem drains_pubAll (s : St) (ev : Nat) (l : List Nat) : (pubAll s ev l).drains = s.drains := rfl
theorem vacant_pubAll (s : St) (ev : Nat) (l : List Nat) : (pubAll s ev l).vacant = s.vacant := rfl
theorem used_pubAll (s : St) (ev : Nat) (l : List Nat) : (pubAll s ev l).used = s.used := rfl
theorem count_pubAll (s : St) (ev : Nat) (l : List Nat) : (pubAll s ev l).count = s.count := rfl
theorem keep_pubAll (s : St) (ev : Nat) (l : List Nat) : (pubAll s ev l).keep = s.keep := rfl
theorem slock_pubAll (s : St) (ev : Nat) (l : List Nat) : (pubAll s ev l).slock = s.slock := rfl
theorem thr_pubAll (s : St) (ev : Nat) (l : List Nat) : (pubAll s ev l).thr = s.thr := rfl
theorem live_pubAll (s : St) (ev : Nat) (l : List Nat) : (pubAll s ev l).live = s.live := rfl
theorem inc_pubAll (s : St) (ev : Nat) (l : List Nat) : (pubAll s ev l).inc = s.inc := rfl
theorem delivered_pubAll (s : St) (ev : Nat) (l : List Nat) : (pubAll s ev l).delivered = s.delivered := rfl
theorem refs_pubAll (s : St) (ev : Nat) (l : List Nat) : (pubAll s ev l).refs = s.refs := rfl
theorem sent_pubAll (s : St) (ev : Nat) (l : List Nat) : (pubAll s ev l).sent = s.sent := rfl
theorem started_pubAll (s : St) (ev : Nat) (l : List Nat) : (pubAll s ev l).started = s.started := rfl
theorem queues_pubAll (s : St) (ev : Nat) (l : List Nat) :
    (pubAll s ev l).queues = fun j => s.queues j ++ List.replicate (l.count j) ev := rfl
theorem pubs_pubAll (s : St) (ev : Nat) (l : List Nat) :
    (pubAll s ev l).pubs = s.pubs ++ l.map (fun id => (ev, id)) := rfl

theorem pubAll_nil (s : St) (ev : Nat) : pubAll s ev [] = s := by
  simp [pubAll]

theorem pubAll_cons (s : St) (ev x : Nat) (l : List Nat) : pubAll (publish s ev x) ev l = pubAll s ev (x :: l) := by
  simp only [pubAll, publish]
  apply St.ext <;> simp
  case queues =>
    funext j
    by_cases h : j = x
    · subst h; simp [List.replicate_succ]
    · simp [h, Ne.symm h]

theorem getD_of_drop {l : List Nat} {i x d : Nat} {r : List Nat} (h : l.drop i = x :: r) : l.getD i d = x := by
  rw [List.getD_eq_getElem?_getD, ← List.head?_drop, h]; rfl

theorem getD_of_drop_replicate {l : List Nat} {i m d : Nat} (h : l.drop i = List.replicate m d) : l.getD i d = d := by
  rw [List.getD_eq_getElem?_getD, ← List.head?_drop, h]; cases m <;> rfl

/-- the `arc` walk from entry `i` on; `l` = the entries left before the sentinels (or before the end of the list) -/
theorem stepN_fArc (t ev : Nat) : ∀ (l : List Nat) (s : St) (i m : Nat),
    s.used.drop i = l ++ List.replicate m s.MAX → (∀ x ∈ l, x ≠ s.MAX) → s.used.length = s.MAX →
    stepN t (l.length + 1) (setThr s t (.fArc ev i (s.used.getD i s.MAX))) =
      setThr { pubAll s ev l with sent := s.sent ++ [ev] } t (.done .unit)
  | [], s, i, m, hd, _, _ => by
    show step _ t = _
    rw [getD_of_drop_replicate (by simpa using hd), step_at_fArc, if_pos rfl, pubAll_nil]
  | x :: l, s, i, m, hd, hx, hu => by
    have hd' : s.used.drop (i + 1) = l ++ List.replicate m s.MAX := by rw [← List.tail_drop, hd]; rfl
    rw [getD_of_drop hd, List.length_cons, stepN_succ, step_at_fArc, if_neg (hx x (by simp)), ← pubAll_cons]
    by_cases hi : i + 1 < s.MAX
    · rw [if_pos hi]
      exact stepN_fArc t ev l (publish s ev x) (i + 1) m hd' (fun y hy => hx y (by simp [hy])) hu
    · have hl : l = [] := by
        rw [List.drop_eq_nil_of_le (by omega)] at hd'
        exact List.eq_nil_of_length_eq_zero (by have := congrArg List.length hd'; simp at this; omega)
      rw [if_neg hi, hl, stepN_done (thr_setThr_self ..), pubAll_nil]

/-- the `ogre_arc` loop from iteration `i` on; `l` = the entries it still visits (`cnt` was read before the loop) -/
theorem stepN_fOgre (t ev cnt : Nat) : ∀ (l : List Nat) (s : St) (i : Nat) (rest : List Nat),
    s.used.drop i = l ++ rest → (∀ x ∈ l, x ≠ s.MAX) → l ≠ [] → i + l.length = cnt →
    stepN t l.length (setThr s t (.fOgre ev i cnt)) =
      setThr { pubAll s ev l with refs := fun e => if e = ev then s.refs e - 1 else s.refs e,
                                  sent := s.sent ++ [ev] } t (.done .unit)
  | [], _, _, _, _, _, h, _ => absurd rfl h
  | x :: l, s, i, rest, hd, hx, _, hc => by
    have hd' : s.used.drop (i + 1) = l ++ rest := by rw [← List.tail_drop, hd]; rfl
    rw [List.length_cons] at hc
    rw [List.length_cons, stepN_succ, ← pubAll_cons,
      step_at_fOgre (s1 := publish s ev x) (by rw [getD_of_drop hd, if_neg (hx x (by simp))])]
    by_cases hl : l = []
    · subst hl
      rw [pubAll_nil]
      exact if_neg (by simp at hc; omega)
    · have := List.length_pos_iff.2 hl
      rw [if_pos (by omega)]
      exact stepN_fOgre t ev cnt l (publish s ev x) (i + 1) rest hd' (fun z hz => hx z (by simp [hz])) hl (by omega)

theorem usedIds_ne_max {mx : Nat} {v : List Nat} : ∀ x ∈ usedIds mx v, x ≠ mx := by
  intro x hx; have := (mem_usedIds.1 hx).1; omega

theorem usedIds_zero (v : List Nat) : usedIds 0 v = [] := by simp [usedIds]

/-- the `ogre_arc` fan-out from `fCount` on, in a state whose `used`/`count` are in sync with `vacant` -/
theorem stepN_fCount {s : St} {t ev : Nat} (hu : s.used = syncPlan s.MAX s.vacant)
    (hc : s.count = (usedIds s.MAX s.vacant).length) :
    stepN t (1 + (usedIds s.MAX s.vacant).length) (setThr s t (.fCount ev)) =
      setThr { pubAll s ev (usedIds s.MAX s.vacant) with
                 refs := fun e => if e = ev then s.refs e + s.count - 1 else s.refs e,
                 sent := s.sent ++ [ev] } t (.done .unit) := by
  rw [stepN_add]
  show stepN t _ (step _ t) = _
  rw [step_at_fCount]
  by_cases h0 : s.count = 0
  · have hn : usedIds s.MAX s.vacant = [] := List.eq_nil_of_length_eq_zero (hc ▸ h0)
    rw [if_pos h0, hn, pubAll_nil]; rfl
  · rw [if_neg h0, stepN_fOgre t ev s.count (usedIds s.MAX s.vacant)
      { s with refs := fun e => if e = ev then s.refs e + s.count else s.refs e } 0
      (List.replicate (s.MAX - (usedIds s.MAX s.vacant).length) s.MAX) (by simp [hu, syncPlan_eq]) usedIds_ne_max
      (fun h => h0 (by rw [hc, h]; rfl)) (by omega)]
    exact congrArg (fun r => setThr { pubAll s ev (usedIds s.MAX s.vacant) with refs := r, sent := s.sent ++ [ev] } t
      (.done .unit)) (funext (ite_upd_upd s.refs ev (· + s.count) (· - 1)))

/-- whether `send` finds a free payload slot (`arc` has no pool) -/
def accepts (s : St) : Bool :=
  match s.flavor with
  | .arc => true
  | .ogreArc => decide ((s.started.filter (fun e => s.refs e > 0)).length < s.N)

def specSend (s : St) (ev : Nat) : St :=
  match s.flavor with
  | .arc => { pubAll s ev (usedIds s.MAX s.vacant) with sent := s.sent ++ [ev] }
  | .ogreArc =>
      if (s.started.filter (fun e => s.refs e > 0)).length < s.N then
        { pubAll s ev (usedIds s.MAX s.vacant) with
            refs := fun e => if e = ev then s.count else s.refs e,
            started := s.started ++ [ev], sent := s.sent ++ [ev] }
      else s

def sendRes (s : St) : Res := if accepts s then .unit else .full

theorem flavor_cases (s : St) : s.flavor = .arc ∨ s.flavor = .ogreArc := by cases s.flavor <;> simp

/-- `specSend` in one piece: what `arc` leaves alone is written as such -/
theorem specSend_eq (s : St) (ev : Nat) : specSend s ev =
    if accepts s then
      { pubAll s ev (usedIds s.MAX s.vacant) with
          refs := if s.flavor = .arc then s.refs else fun e => if e = ev then s.count else s.refs e,
          started := if s.flavor = .arc then s.started else s.started ++ [ev],
          sent := s.sent ++ [ev] }
    else s := by
  rcases flavor_cases s with hf | hf <;>
    simp only [specSend, accepts, hf, decide_eq_true_eq, reduceCtorEq, if_true, if_false]
  rfl

theorem MAX_specSend (s : St) (ev : Nat) : (specSend s ev).MAX = s.MAX := by rw [specSend_eq]; split <;> rfl
theorem N_specSend (s : St) (ev : Nat) : (specSend s ev).N = s.N := by rw [specSend_eq]; split <;> rfl
theorem vacant_specSend (s : St) (ev : Nat) : (specSend s ev).vacant = s.vacant := by rw [specSend_eq]; split <;> rfl
theorem used_specSend (s : St) (ev : Nat) : (specSend s ev).used = s.used := by rw [specSend_eq]; split <;> rfl
theorem count_specSend (s : St) (ev : Nat) : (specSend s ev).count = s.count := by rw [specSend_eq]; split <;> rfl
theorem keep_specSend (s : St) (ev : Nat) : (specSend s ev).keep = s.keep := by rw [specSend_eq]; split <;> rfl
theorem slock_specSend (s : St) (ev : Nat) : (specSend s ev).slock = s.slock := by rw [specSend_eq]; split <;> rfl
theorem thr_specSend (s : St) (ev : Nat) : (specSend s ev).thr = s.thr := by rw [specSend_eq]; split <;> rfl
theorem live_specSend (s : St) (ev : Nat) : (specSend s ev).live = s.live := by rw [specSend_eq]; split <;> rfl
theorem inc_specSend (s : St) (ev : Nat) : (specSend s ev).inc = s.inc := by rw [specSend_eq]; split <;> rfl
theorem delivered_specSend (s : St) (ev : Nat) : (specSend s ev).delivered = s.delivered := by rw [specSend_eq]; split <;> rfl
theorem queues_specSend (s : St) (ev : Nat) :
    (specSend s ev).queues =
      if accepts s then fun j => s.queues j ++ List.replicate ((usedIds s.MAX s.vacant).count j) ev else s.queues := by
  rw [specSend_eq]; split <;> rfl
theorem pubs_specSend (s : St) (ev : Nat) :
    (specSend s ev).pubs =
      if accepts s then s.pubs ++ (usedIds s.MAX s.vacant).map (fun id => (ev, id)) else s.pubs := by
  rw [specSend_eq]; split <;> rfl
theorem sent_specSend (s : St) (ev : Nat) :
    (specSend s ev).sent = if accepts s then s.sent ++ [ev] else s.sent := by
  rw [specSend_eq]; split <;> rfl

section send
variable {s : St} {t ev : Nat}

theorem apply_send_arc0 (hi : s.thr t = .idle) (hf : s.flavor = .arc) (hm : s.MAX = 0) :
    apply s (.send t ev) = setThr { s with sent := s.sent ++ [ev] } t (.done .unit) := by
  simp only [apply, hi, hf, hm, if_pos]
theorem apply_send_arc (hi : s.thr t = .idle) (hf : s.flavor = .arc) (hm : s.MAX ≠ 0) :
    apply s (.send t ev) = setThr s t (.fArc ev 0 (s.used.getD 0 s.MAX)) := by
  simp only [apply, hi, hf, if_neg hm, if_pos]
theorem apply_send_ogre (hi : s.thr t = .idle) (hf : s.flavor = .ogreArc)
    (ha : (s.started.filter (fun e => s.refs e > 0)).length < s.N) :
    apply s (.send t ev) =
      setThr { s with refs := fun e => if e = ev then 1 else s.refs e, started := s.started ++ [ev] } t (.fCount ev) := by
  simp only [apply, hi, hf, if_pos ha, if_pos]
theorem apply_send_full (hi : s.thr t = .idle) (hf : s.flavor = .ogreArc)
    (ha : ¬ (s.started.filter (fun e => s.refs e > 0)).length < s.N) :
    apply s (.send t ev) = setThr s t (.done .full) := by
  simp only [apply, hi, hf, if_neg ha, if_pos]

theorem callSend_eq (hi : s.thr t = .idle) (hu : s.used = syncPlan s.MAX s.vacant)
    (hc : s.count = (usedIds s.MAX s.vacant).length) :
    callSend t ev s = setThr (specSend s ev) t (.done (sendRes s)) := by
  have hle := usedIds_length_le s.MAX s.vacant
  rcases flavor_cases s with hf | hf <;> simp only [specSend, sendRes, accepts, hf, if_true] <;>
    rw [callSend, run_cons, run_replicate_step]
  · by_cases hm : s.MAX = 0
    · have hn : usedIds s.MAX s.vacant = [] := by rw [hm]; exact usedIds_zero _
      rw [apply_send_arc0 hi hf hm, stepN_done (thr_setThr_self ..), hn, pubAll_nil]
    · rw [apply_send_arc hi hf hm]
      exact stepN_of_done (stepN_fArc t ev _ s 0 (s.MAX - (usedIds s.MAX s.vacant).length) (by simp [hu, syncPlan_eq])
        usedIds_ne_max (by simp [hu])) (thr_setThr_self ..) _ (by omega)
  · by_cases ha : (s.started.filter (fun e => s.refs e > 0)).length < s.N
    · rw [apply_send_ogre hi hf ha]
      simp only [ha, decide_true, if_true]
      have hr : ∀ e, (if e = ev then (if e = ev then 1 else s.refs e) + s.count - 1 else if e = ev then 1 else s.refs e) =
          if e = ev then s.count else s.refs e := fun e =>
        (ite_upd_upd s.refs ev (fun _ => 1) (· + s.count - 1) e).trans (by split <;> omega)
      refine stepN_of_done (a := 1 + (usedIds s.MAX s.vacant).length) (r := .unit) ((stepN_fCount
        (s := { s with refs := (fun e => if e = ev then 1 else s.refs e), started := s.started ++ [ev] }) hu hc).trans ?_)
        (thr_setThr_self ..) _ (by omega)
      exact congrArg (fun r => setThr { pubAll s ev (usedIds s.MAX s.vacant) with
        refs := r, started := s.started ++ [ev], sent := s.sent ++ [ev] } t (.done .unit)) (funext hr)
    · rw [apply_send_full hi hf ha, stepN_done (thr_setThr_self ..)]
      simp only [ha, decide_false, if_false, Bool.false_eq_true]

end send

theorem ack_of_call {c s' : St} {t : Nat} {r : Res} (hc : c = setThr s' t (.done r)) (hi : s'.thr t = .idle) :
    apply c (.ack t) = s' := by
  subst hc
  simp only [apply, thr_setThr, if_pos, setThr_setThr]
  exact setThr_self hi

/-! ## quiescent well-formedness -/

structure WF (s : St) : Prop where
  idle     : ∀ t, s.thr t = .idle
  unlocked : s.slock = false
  liveND   : s.live.Nodup
  vacND    : s.vacant.Nodup
  vacLt    : ∀ i ∈ s.vacant, i < s.MAX
  liveLt   : ∀ i ∈ s.live, i < s.MAX
  /-- `vacant` and `live` partition `0..MAX-1` -/
  part     : ∀ i, i < s.MAX → (i ∈ s.vacant ↔ i ∉ s.live)
  countEq  : s.count = s.live.length
  /-- `used` = the live ids ascending, then sentinels; `MAX` entries -/
  usedEq   : s.used = syncPlan s.MAX s.vacant

theorem wf_init {mx n : Nat} {f : Flavor} {d : Bool} : WF (init mx n f d) := by
  constructor <;> simp [init]
  case vacND => exact List.nodup_range
  case usedEq =>
    have : usedIds mx (List.range mx) = [] := by
      simp [usedIds]
    simp [syncPlan_eq, this]

namespace WF
variable {s : St}

theorem mem_usedIds_iff (h : WF s) {i : Nat} : i ∈ usedIds s.MAX s.vacant ↔ i ∈ s.live := by
  rw [mem_usedIds]
  exact ⟨fun ⟨h1, h2⟩ => Decidable.not_not.1 fun hn => h2 ((h.part i h1).2 hn),
    fun hl => ⟨h.liveLt i hl, fun hv => (h.part i (h.liveLt i hl)).1 hv hl⟩⟩

theorem usedIds_perm (h : WF s) : (usedIds s.MAX s.vacant).Perm s.live :=
  (List.perm_ext_iff_of_nodup (usedIds_nodup _ _) h.liveND).2 (fun _ => h.mem_usedIds_iff)

theorem usedIds_length (h : WF s) : (usedIds s.MAX s.vacant).length = s.live.length :=
  h.usedIds_perm.length_eq

/-- `vacant` and `live` together list `0 .. MAX-1`, each id once: this is what the five fields about them say -/
theorem perm (h : WF s) : (s.vacant ++ s.live).Perm (List.range s.MAX) := by
  refine (List.perm_ext_iff_of_nodup (List.nodup_append.2 ⟨h.vacND, h.liveND, fun a ha b hb hab => ?_⟩)
    List.nodup_range).2 fun a => ?_
  · exact (h.part a (h.vacLt a ha)).1 ha (hab ▸ hb)
  · rw [List.mem_append, List.mem_range]
    exact ⟨fun ha => ha.elim (h.vacLt a) (h.liveLt a),
      fun ha => (Decidable.em (a ∈ s.live)).symm.imp (h.part a ha).2 id⟩

theorem of_perm (idle : ∀ t, s.thr t = .idle) (unlocked : s.slock = false)
    (hp : (s.vacant ++ s.live).Perm (List.range s.MAX)) (countEq : s.count = s.live.length)
    (usedEq : s.used = syncPlan s.MAX s.vacant) : WF s := by
  obtain ⟨vacND, liveND, dj⟩ := List.nodup_append.1 (hp.nodup_iff.2 List.nodup_range)
  have mem : ∀ i, i ∈ s.vacant ∨ i ∈ s.live ↔ i < s.MAX := fun i => by rw [← List.mem_append, hp.mem_iff, List.mem_range]
  exact { idle, unlocked, liveND, vacND, countEq, usedEq,
          vacLt := fun i hi => (mem i).1 (.inl hi), liveLt := fun i hi => (mem i).1 (.inr hi),
          part := fun i hi => ⟨fun hv hl => dj i hv i hl rfl, fun hn => ((mem i).2 hi).resolve_right hn⟩ }

theorem lenSum (h : WF s) : s.vacant.length + s.live.length = s.MAX := by simpa using h.perm.length_eq

/-- ids are never exhausted by churn -/
theorem vacant_ne_nil (h : WF s) (hl : s.live.length < s.MAX) : s.vacant ≠ [] := by
  intro hv
  have := h.lenSum
  simp [hv] at this
  omega

theorem not_mem_erase (h : WF s) (id : Nat) : id ∉ s.live.erase id :=
  fun hm => (h.liveND.mem_erase_iff.1 hm).1 rfl

theorem count_le (h : WF s) : s.count ≤ s.MAX := by
  have := h.lenSum; have := h.countEq; omega

theorem used_length (h : WF s) : s.used.length = s.MAX := by
  rw [h.usedEq, syncPlan_length]

end WF

theorem WF.opCreate_spec {s : St} (h : WF s) (t : Nat) (hl : s.live.length < s.MAX) :
    ∃ j rest, s.vacant = j :: rest ∧ j ∉ s.live ∧ j < s.MAX ∧
      callCreate t s = setThr (specCreate s j rest) t (.done (.id j)) ∧ opCreate t s = specCreate s j rest := by
  obtain ⟨j, rest, hv⟩ := List.exists_cons_of_ne_nil (h.vacant_ne_nil hl)
  have hj : j ∈ s.vacant := hv ▸ List.mem_cons_self ..
  have hc := callCreate_eq (t := t) (h.idle t) h.unlocked h.used_length hv (Nat.zero_lt_of_lt hl)
  exact ⟨j, rest, hv, (h.part j (h.vacLt j hj)).1 hj, h.vacLt j hj, hc, ack_of_call hc (h.idle t)⟩

theorem WF.opDrop_spec {s : St} (h : WF s) (t : Nat) {id : Nat} (hid : id ∈ s.live) :
    callDrop t id s = setThr (specDrop s id) t (.done .unit) ∧ opDrop t id s = specDrop s id :=
  have hc := callDrop_eq (t := t) (h.idle t) h.unlocked h.used_length hid (Nat.zero_lt_of_lt (h.liveLt id hid))
  ⟨hc, ack_of_call hc (h.idle t)⟩

theorem WF.opSend_spec {s : St} (h : WF s) (t ev : Nat) :
    callSend t ev s = setThr (specSend s ev) t (.done (sendRes s)) ∧ opSend t ev s = specSend s ev :=
  have hc := callSend_eq (t := t) (ev := ev) (h.idle t) h.usedEq (by rw [h.usedIds_length, h.countEq])
  ⟨hc, ack_of_call hc (by rw [thr_specSend]; exact h.idle t)⟩

theorem specPoll_thr (s : St) (id : Nat) : (specPoll s id).thr = s.thr := by
  simp only [specPoll]; split <;> rfl

theorem WF.opPoll_spec {s : St} (h : WF s) (t id : Nat) :
    callPoll t id s = setThr (specPoll s id) t (.done (.item (s.queues id).head?)) ∧
      opPoll t id s = specPoll s id :=
  have hc := callPoll_eq (t := t) (id := id) (h.idle t)
  ⟨hc, ack_of_call hc (by rw [specPoll_thr]; exact h.idle t)⟩

theorem wf_specCreate {s : St} {j : Nat} {rest : List Nat} (h : WF s) (hv : s.vacant = j :: rest) :
    WF (specCreate s j rest) := by
  refine .of_perm h.idle rfl ?_ (by simp [specCreate, h.countEq]) rfl
  have := h.perm
  rw [hv] at this
  exact (List.append_assoc .. ▸ List.perm_append_singleton j (rest ++ s.live)).trans this

theorem wf_specDrop {s : St} {id : Nat} (h : WF s) (hid : id ∈ s.live) : WF (specDrop s id) := by
  refine .of_perm h.idle rfl ?_ (by simp [specDrop, List.length_erase_of_mem hid, h.countEq]) rfl
  show (s.vacant ++ [id] ++ s.live.erase id).Perm _
  rw [List.append_assoc]
  exact ((List.perm_cons_erase hid).symm.append_left _).trans h.perm

/-- the bookkeeping fields (`keep` is not among them: `.cancel` changes it, and only `.cancel`: `FanRun.keep`) -/
def frameOf (s : St) :=
  (s.MAX, s.N, s.flavor, s.drains, s.vacant, s.used, s.count, s.slock, s.live, s.inc)

/-- `frameOf s = frameOf s₀` with names for the components (`frameOf` is a tuple so that a frame is proved by `rfl`
    and two compose by `.trans`; its users read the components off through `frame_of_eq`) -/
structure Frame (s₀ s : St) : Prop where
  MAX : s.MAX = s₀.MAX
  N : s.N = s₀.N
  flavor : s.flavor = s₀.flavor
  drains : s.drains = s₀.drains
  vacant : s.vacant = s₀.vacant
  used : s.used = s₀.used
  count : s.count = s₀.count
  slock : s.slock = s₀.slock
  live : s.live = s₀.live
  inc : s.inc = s₀.inc

theorem frame_of_eq {s s₀ : St} (hf : frameOf s = frameOf s₀) : Frame s₀ s := by
  simp only [frameOf, Prod.mk.injEq] at hf
  obtain ⟨MAX, N, flavor, drains, vacant, used, count, slock, live, inc⟩ := hf
  exact { MAX, N, flavor, drains, vacant, used, count, slock, live, inc }

/-- `WF` speaks of the bookkeeping fields and of `thr` only -/
theorem wf_of_frame {s₀ s : St} (hw : WF s₀) (hf : frameOf s = frameOf s₀) (hi : ∀ t, s.thr t = .idle) : WF s :=
  have f := frame_of_eq hf
  .of_perm hi (f.slock ▸ hw.unlocked) (by rw [f.vacant, f.live, f.MAX]; exact hw.perm)
    (by rw [f.count, f.live]; exact hw.countEq) (by rw [f.used, f.MAX, f.vacant]; exact hw.usedEq)

theorem wf_specSend {s : St} {ev : Nat} (h : WF s) : WF (specSend s ev) :=
  wf_of_frame h (by rw [specSend_eq]; split <;> rfl) fun t => by rw [thr_specSend]; exact h.idle t

theorem wf_specPoll {s : St} {id : Nat} (h : WF s) : WF (specPoll s id) :=
  wf_of_frame h (by simp only [specPoll]; split <;> rfl) fun t => by rw [specPoll_thr]; exact h.idle t

theorem wf_release {s : St} {ev : Nat} (h : WF s) : WF (apply s (.release ev)) := wf_of_frame h rfl h.idle

/-- `cancel_stream(id)` only clears `keep id` -/
theorem wf_cancel {s : St} {id : Nat} (h : WF s) : WF (apply s (.cancel id)) := wf_of_frame h rfl h.idle

/-! ## sequential histories -/

inductive Op where
  | create
  | drop (id : Nat)
  | send (ev : Nat)
  | poll (id : Nat)
  | release (ev : Nat)
  /-- `cancel_stream(id)`: tell listener `id` to end (it may still be polled, and is dropped later) -/
  | cancel (id : Nat)
  deriving DecidableEq, Repr

/-- one completed operation on thread 0 -/
def exec1 (s : St) : Op → St
  | .create => opCreate 0 s
  | .drop id => opDrop 0 id s
  | .send ev => opSend 0 ev s
  | .poll id => opPoll 0 id s
  | .release ev => apply s (.release ev)
  | .cancel id => apply s (.cancel id)

def exec (s : St) (h : List Op) : St := h.foldl exec1 s

@[simp] theorem exec_nil (s : St) : exec s [] = s := rfl
@[simp] theorem exec_cons (s : St) (op : Op) (h : List Op) : exec s (op :: h) = exec (exec1 s op) h := rfl
theorem exec_append (s : St) (h₁ h₂ : List Op) : exec s (h₁ ++ h₂) = exec (exec s h₁) h₂ := by
  simp [exec, List.foldl_append]

/-- `create` needs a free id (the source panics otherwise), `drop` and `cancel` a live listener -/
def Legal (s : St) : Op → Prop
  | .create => s.live.length < s.MAX
  | .drop id => id ∈ s.live
  | .cancel id => id ∈ s.live
  | _ => True

def LegalH : St → List Op → Prop
  | _, [] => True
  | s, op :: h => Legal s op ∧ LegalH (exec1 s op) h

instance (s : St) (op : Op) : Decidable (Legal s op) := by
  cases op <;> simp only [Legal] <;> infer_instance

instance : (s : St) → (h : List Op) → Decidable (LegalH s h)
  | _, [] => isTrue trivial
  | s, op :: h =>
    have := instDecidableLegalH (exec1 s op) h
    by simp only [LegalH]; infer_instance

theorem legalH_append {s : St} {h₁ h₂ : List Op} :
    LegalH s (h₁ ++ h₂) ↔ LegalH s h₁ ∧ LegalH (exec s h₁) h₂ := by
  induction h₁ generalizing s with
  | nil => simp [LegalH]
  | cons op h ih => simp [LegalH, ih, and_assoc]

/-- one legal operation in a `WF` state, through the closed form of its completed call -/
theorem exec1_cases {motive : Op → St → Prop} {s : St} (h : WF s)
    (create : ∀ j rest, s.vacant = j :: rest → j ∉ s.live → motive .create (specCreate s j rest))
    (drop : ∀ id, id ∈ s.live → motive (.drop id) (specDrop s id))
    (send : ∀ ev, motive (.send ev) (specSend s ev))
    (poll : ∀ id, motive (.poll id) (specPoll s id))
    (release : ∀ ev, motive (.release ev) (apply s (.release ev)))
    (cancel : ∀ id, id ∈ s.live → motive (.cancel id) (apply s (.cancel id))) :
    ∀ {op : Op}, Legal s op → motive op (exec1 s op)
  | .create, hl => by
    obtain ⟨j, rest, hv, hj, _, _, he⟩ := h.opCreate_spec 0 hl
    exact (he ▸ create j rest hv hj : motive _ (opCreate 0 s))
  | .drop id, hl => ((h.opDrop_spec 0 hl).2 ▸ drop id hl : motive _ (opDrop 0 id s))
  | .send ev, _ => ((h.opSend_spec 0 ev).2 ▸ send ev : motive _ (opSend 0 ev s))
  | .poll id, _ => ((h.opPoll_spec 0 id).2 ▸ poll id : motive _ (opPoll 0 id s))
  | .release ev, _ => release ev
  | .cancel id, hl => cancel id hl

theorem wf_exec1 {s : St} {op : Op} (h : WF s) (hl : Legal s op) : WF (exec1 s op) :=
  exec1_cases (motive := fun _ s' => WF s') h (fun _ _ hv _ => wf_specCreate h hv) (fun _ hid => wf_specDrop h hid)
    (fun _ => wf_specSend h) (fun _ => wf_specPoll h) (fun _ => wf_release h) (fun _ _ => wf_cancel h) hl

/-- an invariant of the legal sequential histories: `WF` comes along -/
theorem exec_ind {p : St → Prop} (step : ∀ {s op}, WF s → Legal s op → p s → p (exec1 s op)) {s : St} {hs : List Op}
    (h : WF s) (hl : LegalH s hs) (hp : p s) : WF (exec s hs) ∧ p (exec s hs) :=
  foldl_of_ok (ok := LegalH) (P := fun s => WF s ∧ p s)
    (fun _ _ _ h hl => ⟨⟨wf_exec1 h.1 hl.1, step h.1 hl.1 h.2⟩, hl.2⟩) hs s ⟨h, hp⟩ hl

theorem wf_exec {s : St} {hs : List Op} (h : WF s) (hl : LegalH s hs) : WF (exec s hs) :=
  (exec_ind (p := fun _ => True) (fun _ _ _ => trivial) h hl trivial).1

/-! ### sequential histories are executions of the model -/

def opActs (mx : Nat) : Op → List Act
  | .create => .create 0 :: List.replicate (mx + 6) (.step 0) ++ [.ack 0]
  | .drop id => .drop 0 id :: List.replicate (mx + 6) (.step 0) ++ [.ack 0]
  | .send ev => .send 0 ev :: List.replicate (mx + 6) (.step 0) ++ [.ack 0]
  | .poll id => .poll 0 id :: List.replicate (mx + 6) (.step 0) ++ [.ack 0]
  | .release ev => [.release ev]
  | .cancel id => [.cancel id]

theorem exec1_eq_run (s : St) (op : Op) : exec1 s op = run s (opActs s.MAX op) := by
  cases op <;>
    simp [exec1, opActs, opCreate, callCreate, opDrop, callDrop, opSend, callSend, opPoll, callPoll, run_append]

theorem exec1_params (s : St) (op : Op) : params (exec1 s op) = params s := by rw [exec1_eq_run, run_params]

theorem exec1_MAX (s : St) (op : Op) : (exec1 s op).MAX = s.MAX := congrArg Params.MAX (exec1_params s op)

theorem exec_eq_run (s : St) (h : List Op) : exec s h = run s (h.flatMap (opActs s.MAX)) := by
  induction h generalizing s with
  | nil => rfl
  | cons op h ih => rw [exec_cons, ih, exec1_MAX, List.flatMap_cons, run_append, exec1_eq_run]

theorem exec_MAX (s : St) (h : List Op) : (exec s h).MAX = s.MAX := by rw [exec_eq_run, run_MAX]

theorem reachable_exec (mx n : Nat) (f : Flavor) (d : Bool) (h : List Op) :
    Reachable mx n f d (exec (init mx n f d) h) :=
  ⟨_, exec_eq_run _ h⟩

/-! ## vacant ids have empty queues (`drains = true`) -/

def Fresh (s : St) : Prop := ∀ i ∈ s.vacant, s.queues i = []

theorem fresh_exec1 {s : St} {op : Op} (h : WF s) (hd : s.drains = true) (hf : Fresh s) (hl : Legal s op) :
    Fresh (exec1 s op) := by
  have key : ∀ ev, Fresh (pubAll s ev (usedIds s.MAX s.vacant)) := fun ev i hi => by
    have : i ∉ usedIds s.MAX s.vacant := fun hu => (mem_usedIds.1 hu).2 hi
    simp [queues_pubAll, hf i hi, List.count_eq_zero_of_not_mem this]
  refine exec1_cases (motive := fun _ s' => Fresh s') h (fun j rest hv _ i hi => hf i (hv ▸ List.mem_cons_of_mem j hi))
    (fun id _ i hi => ?_) (fun ev => ?_) (fun id => ?_) (fun _ => hf) (fun _ _ => hf) hl
  · simp only [specDrop, hd, if_pos]
    split
    · rfl
    · exact hf i ((List.mem_append.1 hi).resolve_right (by simpa))
  · rw [specSend_eq]
    split
    · exact key ev
    · exact hf
  · simp only [specPoll]
    split
    · next ev rest hq =>
      intro i hi
      show (if i = id then rest else s.queues i) = []
      split
      · next hid => rw [← hid, hf i hi] at hq; cases hq
      · exact hf i hi
    · exact hf

theorem fresh_init {mx n : Nat} {f : Flavor} {d : Bool} : Fresh (init mx n f d) := fun _ _ => rfl

theorem fresh_exec {s : St} {hs : List Op} (h : WF s) (hd : s.drains = true) (hf : Fresh s) (hl : LegalH s hs) :
    Fresh (exec s hs) :=
  (exec_ind (p := fun s => s.drains = true ∧ Fresh s) (fun {s op} h hl hp =>
    ⟨(congrArg Params.drains (exec1_params s op)).trans hp.1, fresh_exec1 h hp.1 hp.2 hl⟩) h hl ⟨hd, hf⟩).2.2

/-- sequential set-up: `k` listeners `0..k-1` created one after the other on thread 0 (`drains = true`, pool of 8) -/
def setup (mx k : Nat) (f : Flavor) : St := exec (init mx 8 f true) (List.replicate k .create)

theorem wf_setup (mx k : Nat) (f : Flavor) (h : LegalH (init mx 8 f true) (List.replicate k .create)) :
    WF (setup mx k f) := wf_exec wf_init h

/-! ## delivery accounting per incarnation -/

/-- every delivery is stamped with an incarnation that exists (`inc` only grows) -/
def Stamped (s : St) : Prop := ∀ x ∈ s.delivered, x.2.1 ≤ s.inc x.1

theorem stamped_init {mx n : Nat} {f : Flavor} {d : Bool} : Stamped (init mx n f d) := by
  intro x hx; simp [init] at hx

theorem stamped_exec1 {s : St} {op : Op} (h : WF s) (hd : Stamped s) (hl : Legal s op) : Stamped (exec1 s op) := by
  refine exec1_cases (motive := fun _ s' => Stamped s') h (fun j _ _ _ x hx => ?_) (fun _ _ => hd) (fun ev => ?_)
    (fun id => ?_) (fun _ => hd) (fun _ _ => hd) hl
  · have := hd x hx
    show x.2.1 ≤ (if x.1 = j then s.inc x.1 + 1 else s.inc x.1)
    split <;> omega
  · rw [Stamped, delivered_specSend, inc_specSend]; exact hd
  · simp only [specPoll]
    split
    · intro x hx
      rcases List.mem_append.1 hx with hx | hx
      · exact hd x hx
      · rw [List.mem_singleton.1 hx]; exact Nat.le_refl _
    · exact hd

theorem stamped_exec {s : St} {hs : List Op} (h : WF s) (hd : Stamped s) (hl : LegalH s hs) : Stamped (exec s hs) :=
  (exec_ind (fun h hl hd => stamped_exec1 h hd hl) h hl hd).2

/-- the events delivered to incarnation `k` of stream id `id`, in delivery order -/
def dlv (s : St) (id k : Nat) : List Nat :=
  (s.delivered.filter (fun x => decide (x.1 = id ∧ x.2.1 = k))).map (fun x => x.2.2)

/-- what `Stamped` is for: nothing has been delivered to an incarnation that does not exist yet -/
theorem Stamped.dlv_nil {s : St} (h : Stamped s) {id k : Nat} (hk : s.inc id < k) : dlv s id k = [] := by
  simp only [dlv, List.map_eq_nil_iff, List.filter_eq_nil_iff, decide_eq_true_eq, not_and]
  rintro x hx rfl
  have := h x hx
  omega

/-- what an operation publishes: the event of a `send` that was accepted (answered `unit`, not `full`) -/
def sentBy (s : St) : Op → List Nat
  | .send ev => if accepts s then [ev] else []
  | _ => []

/-- the events of the accepted `send` operations of a history, in order -/
def sendsIn : St → List Op → List Nat
  | _, [] => []
  | s, op :: h => sentBy s op ++ sendsIn (exec1 s op) h

theorem sendsIn_append (s : St) (h₁ h₂ : List Op) :
    sendsIn s (h₁ ++ h₂) = sendsIn s h₁ ++ sendsIn (exec s h₁) h₂ := by
  induction h₁ generalizing s with
  | nil => rfl
  | cons op h ih => simp [sendsIn, ih]

theorem sendsIn_sublist (s : St) (h : List Op) :
    (sendsIn s h).Sublist (h.filterMap (fun op => match op with | .send ev => some ev | _ => none)) := by
  induction h generalizing s with
  | nil => exact .slnil
  | cons op h ih =>
    cases op <;> simp only [sendsIn, sentBy, List.filterMap_cons, List.nil_append]
    case send ev =>
      split
      · exact (ih _).cons_cons _
      · exact (ih _).cons _
    all_goals exact ih _

theorem sendsIn_arc (s : St) (h : List Op) (hw : WF s) (hl : LegalH s h) (hf : s.flavor = .arc) :
    sendsIn s h = h.filterMap (fun op => match op with | .send ev => some ev | _ => none) := by
  induction h generalizing s with
  | nil => rfl
  | cons op h ih =>
    have hfl : (exec1 s op).flavor = .arc := (congrArg Params.flavor (exec1_params s op)).trans hf
    have := ih (exec1 s op) (wf_exec1 hw hl.1) hl.2 hfl
    cases op <;> simp only [sendsIn, sentBy, List.filterMap_cons, List.nil_append, this]
    case send ev => simp [accepts, hf]

theorem acct_exec1 {s : St} {op : Op} {id : Nat} (h : WF s) (hid : id ∈ s.live) (hl : Legal s op)
    (hne : op ≠ .drop id) :
    id ∈ (exec1 s op).live ∧ (exec1 s op).inc id = s.inc id ∧
      dlv (exec1 s op) id (s.inc id) ++ (exec1 s op).queues id =
        dlv s id (s.inc id) ++ s.queues id ++ sentBy s op := by
  -- `create` answers another id (one that is not live) and `drop id'` has `id' ≠ id`: neither touches the two lists; an
  -- accepted `send` appends its one copy for `id` to the queue; `poll id` moves the head of the queue to `dlv`
  refine exec1_cases (motive := fun op s' => op ≠ .drop id → id ∈ s'.live ∧ s'.inc id = s.inc id ∧
    dlv s' id (s.inc id) ++ s'.queues id = dlv s id (s.inc id) ++ s.queues id ++ sentBy s op) h
    (fun j rest _ hnl _ => ?_) (fun id' _ hne => ?_) (fun ev _ => ?_) (fun id' _ => ?_)
    (fun _ _ => ⟨hid, rfl, (List.append_nil _).symm⟩) (fun _ _ _ => ⟨hid, rfl, (List.append_nil _).symm⟩) hl hne
  · have hj : j ≠ id := fun e => hnl (e ▸ hid)
    simp only [specCreate, sentBy, dlv, List.append_nil]
    exact ⟨by simp [hid], by simp [Ne.symm hj], trivial⟩
  · have hj : id ≠ id' := by rintro rfl; exact hne rfl
    simp only [specDrop, sentBy, dlv, List.append_nil]
    refine ⟨(List.mem_erase_of_ne hj).2 hid, trivial, ?_⟩
    split <;> simp [hj]
  · have hc : (usedIds s.MAX s.vacant).count id = 1 := by
      rw [(usedIds_nodup _ _).count, if_pos (h.mem_usedIds_iff.2 hid)]
    simp only [sentBy, dlv, live_specSend, inc_specSend, delivered_specSend, queues_specSend]
    refine ⟨hid, trivial, ?_⟩
    split <;> simp [hc]
  · simp only [specPoll, sentBy, List.append_nil]
    split
    next ev rest hq =>
      refine ⟨hid, rfl, ?_⟩
      by_cases hj : id = id'
      · subst hj
        simp [dlv, List.filter_append, hq]
      · simp [dlv, List.filter_append, hj, Ne.symm hj]
    · exact ⟨hid, rfl, rfl⟩

/-- along a history without `drop id`: what was delivered to the current incarnation of `id`, followed by what is still
    queued for it, grows by the events of the accepted sends — in order, each once -/
theorem acct_exec {s : St} {hs : List Op} {id : Nat} (h : WF s) (hid : id ∈ s.live) (hl : LegalH s hs)
    (hne : Op.drop id ∉ hs) :
    id ∈ (exec s hs).live ∧ (exec s hs).inc id = s.inc id ∧
      dlv (exec s hs) id (s.inc id) ++ (exec s hs).queues id =
        dlv s id (s.inc id) ++ s.queues id ++ sendsIn s hs := by
  induction hs generalizing s with
  | nil => simp [sendsIn, hid]
  | cons op hs ih =>
    obtain ⟨a1, a2, a3⟩ := acct_exec1 h hid hl.1 (fun e => hne (by simp [e]))
    obtain ⟨b1, b2, b3⟩ := ih (wf_exec1 h hl.1) a1 hl.2 (fun e => hne (by simp [e]))
    rw [a2] at b2 b3
    refine ⟨b1, b2, ?_⟩
    rw [exec_cons, b3, a3, sendsIn]
    simp [List.append_assoc]

end Mutiny.Multi
