import Mathlib.Tactic.FieldSimp
import Mathlib.Tactic.Ring
import Mathlib.Data.Rat.Defs

/-!
# The recurrence of `AtomicIncrementalAverage64::inc` computes the arithmetic mean (exactly, over `ℚ`)

Pure arithmetic; independent of the concurrency model.  Floating-point rounding is outside the model (checked
numerically by the harness).
-/

namespace Mutiny.IncAvg

/-- the recurrence of `inc`, over the rationals -/
def incAvg : ℚ × ℚ → ℚ → ℚ × ℚ := fun (n, a) x => (n + 1, n / (n + 1) * a + x / (n + 1))

theorem incAvg_mk (n a x : ℚ) : incAvg (n, a) x = (n + 1, n / (n + 1) * a + x / (n + 1)) := rfl

theorem foldl_incAvg (xs : List ℚ) (n : ℕ) (a : ℚ) (h : n + xs.length ≠ 0) :
    xs.foldl incAvg ((n : ℚ), a) = ((n : ℚ) + xs.length, (n * a + xs.sum) / (n + xs.length)) := by
  induction xs generalizing n a with
  | nil =>
    have hn : (n : ℚ) ≠ 0 := by simpa using h
    simp only [List.foldl_nil, List.length_nil, Nat.cast_zero, add_zero, List.sum_nil, Prod.mk.injEq, true_and]
    field_simp
  | cons x xs ih =>
    have hn : ((n : ℚ) + 1) ≠ 0 := by exact_mod_cast Nat.succ_ne_zero n
    have hl : ((n : ℚ) + 1 + xs.length) ≠ 0 := by
      have : n + 1 + xs.length ≠ 0 := by omega
      exact_mod_cast this
    have := ih (n + 1) (n / (n + 1) * a + x / (n + 1)) (by omega)
    rw [List.foldl_cons, incAvg_mk]
    push_cast at this
    rw [this]
    simp only [List.length_cons, List.sum_cons, Nat.cast_add, Nat.cast_one, Prod.mk.injEq]
    constructor
    · ring
    · have hl' : ((n : ℚ) + (xs.length + 1)) ≠ 0 := by exact_mod_cast Nat.succ_ne_zero (n + xs.length)
      field_simp
      ring

end Mutiny.IncAvg
