import Mutiny.Proofs.RingInv
import Mutiny.Proofs.U32
import Mutiny.Model.Ring32

/-!
# `Ring32` (u32 arithmetic of the source) is the image of `Ring` (free-running naturals) — property C15

`sim_step`: from the image of any state that satisfies the ring invariant `Inv` and the window condition `Win`, one step
of the `u32` machine lands exactly on the image of the `Nat` machine's step, and never panics.  `sim_apply`, `sim_run`: the
same for every action other than the start of an index-based call, and for whole runs.
-/

namespace Mutiny.Ring32
open Mutiny.Ring Mutiny.U32

/-- the window condition: what "fewer than 2^31 claims outstanding, `N < 2^31`, `N` a power of two" gives, plus the absence
    of a 2^32-event ABA between the two loads of the emptiness re-check.  `hD` is, to within one, what the consumer's signed
    test `(tail - id) as i32 > 0` needs; of `hE` the simulation uses no more than `enqTail - head < 2^32` (the producer side
    compares by equality and by unsigned difference). -/
structure Win (s : St) : Prop where
  hN : M32 % s.N = 0
  hNs : s.N ≤ 2147483647
  hE : s.enqTail < s.head + 2147483648
  hD : s.deqHead ≤ s.head + 2147483648
  noABA : ∀ t h w, s.thr t = .cChkTail h w → s.tail < h + M32
  /-- fewer than 2^31 events were consumed past a producer's own between its publication and its length measurement
      (otherwise the `as i32` of `len_after_publishing` turns the negative distance into a large positive one) -/
  noLag : ∀ t id, s.thr t = .pLen id → s.head ≤ id + 1 + 2147483648

@[simp] theorem img_N (s : St) : (img s).N = s.N := rfl
@[simp] theorem img_head (s : St) : (img s).head = wrap s.head := rfl
@[simp] theorem img_tail (s : St) : (img s).tail = wrap s.tail := rfl
@[simp] theorem img_enq (s : St) : (img s).enqTail = wrap s.enqTail := rfl
@[simp] theorem img_deq (s : St) : (img s).deqHead = wrap s.deqHead := rfl
@[simp] theorem img_buf (s : St) : (img s).buf = s.buf := rfl
@[simp] theorem img_thr (s : St) (u : Nat) : (img s).thr u = imgLoc (s.thr u) := rfl
@[simp] theorem img_acc (s : St) : (img s).accepted = s.accepted := rfl
@[simp] theorem img_del (s : St) : (img s).delivered = s.delivered.map fun x => (x.1, wrap x.2.1, x.2.2) := rfl

/-! ## `img` commutes with the state updates (the counter updates and `setBuf` commute by `rfl`) -/

theorem img_setThr (s : St) (t : Nat) (l : Loc) : img (setThr s t l) = setThr (img s) t (imgLoc l) := by
  simp only [img, setThr, apply_ite imgLoc]

theorem img_release (s : St) (t id v : Nat) :
    img { s with head := id + 1, delivered := s.delivered ++ [(t, id, v)] } =
      { img s with head := wrap (id + 1), delivered := (img s).delivered ++ [(t, wrap id, v)] } := by
  simp only [img, List.map_append, List.map_cons, List.map_nil]

theorem lenAfter32_wrap (id hd : Nat) (h1 : id + 1 < hd + 2147483648) (h2 : hd ≤ id + 1 + 2147483648) :
    lenAfter32 (wrap id) (wrap hd) = max 1 (id + 1 - hd) := by
  simp only [lenAfter32, posI32_iff]
  unfold wsub wadd wrap
  split <;> omega

/-! ## the step simulation

At every program point the `u32` test decides what the `Nat` test decides (the window puts the two compared counters less
than 2^31 apart), and the two machines then perform the same update. -/

/-- a program point outside the index-based publish / cancel calls (those are related at call level, `Props/C15.lean`) -/
def NotIdx (l : Loc) : Prop := (∀ id idx g, l ≠ .rPub id idx g) ∧ (∀ id idx g, l ≠ .rCan id idx g)

theorem sim_step (s : St) (t : Nat) (h : Inv s) (w : Win s) (hni : NotIdx (s.thr t)) :
    step32 (img s) t = some (img (step s t)) := by
  have hHT := h.hHT; have hTN := h.hTN; have hNs := w.hNs; have hE := w.hE; have hD := w.hD
  cases hl : s.thr t <;>
    simp only [step32, step, img_thr, hl, imgLoc, img_N, img_head, img_tail, img_enq, img_deq, img_buf, wadd_wrap_one,
      index32, len32, mod_wrap _ s.N w.hN, apply_ite img, img_setThr, img_release]
  -- (nothing is left at `rLen`, `lLenH`: the `Nat` model answers with the very `u32` expression of the two loads)
  case rPub id idx g => exact absurd hl (hni.1 id idx g)
  case rCan id idx g => exact absurd hl (hni.2 id idx g)
  case pFetch | cFetch | pWrite => rfl
  case pLoadHead v id rsv =>
    have hr := h.pRange t id (by rw [hl]; rfl)
    simp only [admit32, lenBefore32, wsub_wrap id s.head (by omega) (by omega), decide_eq_true_eq]
    split
    · cases rsv <;> rfl
    · -- `Ring32` records the ghost of `pRecede` as constant `true`; the `Nat` model computes it: to `true`, here
      rw [decide_eq_true (by omega : s.head + s.N ≤ s.enqTail)]
  case pRecede v id rsv wg =>
    have hr := h.pRange t id (by rw [hl]; rfl)
    simp only [wrap_eq_iff_near s.enqTail (id + 1) (by omega) (by omega)]
    split <;> rfl
  case pPublish v id len =>
    have hr := h.pRange t id (by rw [hl]; rfl)
    simp only [wrap_eq_iff_near s.tail id (by omega) (by omega)]
    split <;> rfl
  case pLen id =>
    have := h.lenOk t id hl
    rw [lenAfter32_wrap id s.head (by omega) (w.noLag t id hl)]
  case cLoadTail id =>
    have hr := h.cRange t id (by rw [hl]; rfl)
    simp only [hasItem_wrap s.tail id (by omega) (by omega), decide_eq_true_eq]
    split <;> rfl
  case cRecede id =>
    have hr := h.cRange t id (by rw [hl]; rfl)
    simp only [wrap_eq_iff_near s.deqHead (id + 1) (by omega) (by omega)]
    split <;> rfl
  case cChkHead => simp only [wrap_eq_iff_near s.head s.tail (by omega) (by omega)]
  case cChkTail hh wg =>
    have := h.chkOk t hh wg hl; have := w.noABA t hh wg hl
    simp only [wrap_eq_iff_near s.tail hh (by omega) (by omega)]
    split <;> rfl
  case cRelease id v =>
    have hr := h.cRange t id (by rw [hl]; rfl)
    simp only [wrap_eq_iff_near s.head id (by omega) (by omega)]
    split <;> rfl

/-! ## the assembled action / run simulation -/

theorem imgLoc_idle_iff (l : Loc) : imgLoc l = .idle ↔ l = .idle := by cases l <;> simp [imgLoc]

/-- actions other than starting an index-based publish / cancel -/
def ActOk : Act → Prop
  | .pubIdx _ => False
  | .canIdx _ => False
  | _ => True

def NoIdx (s : St) : Prop := ∀ t, NotIdx (s.thr t)

theorem noIdx_apply (s : St) (a : Act) (h : NoIdx s) (ha : ActOk a) : NoIdx (apply s a) := by
  intro u
  rcases apply_thr s a u with e | rfl | he
  · exact e ▸ h u
  · exact ⟨fun id idx g e => (step_origin s u e).elim ((h u).1 id idx g) fun ⟨_, e'⟩ => (h u).1 _ _ _ e',
      fun id idx g e => (step_origin s u e).elim ((h u).2 id idx g) fun ⟨_, e'⟩ => (h u).2 _ _ _ e'⟩
  · generalize s.thr u = l₀, (apply s a).thr u = l at he
    cases he <;> first | exact ha.elim | exact ⟨nofun, nofun⟩

theorem sim_apply (s : St) (a : Act) (h : Inv s) (w : Win s) (hn : NoIdx s) (ha : ActOk a) :
    apply32 (img s) a = some (img (apply s a)) := by
  cases a with
  | pubIdx t | canIdx t => exact ha.elim
  | step t => exact sim_step s t h w (hn t)
  | send | recv | len | reserve =>
    simp only [apply32, apply, img_thr, imgLoc_idle_iff, apply_ite img, img_setThr]; rfl
  | fill t v =>
    simp only [apply32, apply, img_thr]
    cases s.thr t <;> simp only [imgLoc, index32, img_N, mod_wrap _ s.N w.hN] <;> rfl
  | ack t =>
    simp only [apply32, apply, img_thr]
    cases s.thr t <;> simp only [imgLoc, img_setThr]

def WinRun (s : St) : List Act → Prop
  | [] => True
  | a :: as => Win s ∧ WinRun (Ring.apply s a) as

def ActsOk : List Act → Prop
  | [] => True
  | a :: as => ActOk a ∧ ActsOk as

/-- C15 at machine level: every run of the `u32` machine is, step for step, the image modulo 2^32 of the run of the
    free-running `Nat` machine M1, and never panics, whatever magnitude the counters have reached -/
theorem sim_run (s : St) (as : List Act) (h : Inv s) (hn : NoIdx s) (hok : RunOk s as) (hw : WinRun s as) (ha : ActsOk as) :
    run32 (img s) as = some (img (Ring.run s as)) := by
  induction as generalizing s with
  | nil => rfl
  | cons a as ih =>
    obtain ⟨hex, hok'⟩ := hok
    obtain ⟨w, hw'⟩ := hw
    obtain ⟨ha1, ha'⟩ := ha
    simp only [run32, sim_apply s a h w hn ha1]
    exact ih (Ring.apply s a) (inv_apply s a h hex) (noIdx_apply s a hn ha1) hok' hw' ha'

end Mutiny.Ring32
