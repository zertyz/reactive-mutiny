/-!
# What several models share and no model owns

Arithmetic of residues inside one window, a few list facts, invariants along `run s as = as.foldl apply s`, and the small
notions the invariant files are built from: `Inj` (no value held twice), `Card` (exactly `n` things satisfy `p`),
pigeonhole, and `Fifo` (a bounded FIFO in a ring buffer with its ghost history: the ring part of both ring invariants).
Nothing here depends on a model.
-/

namespace Mutiny

/-! ## residues inside one window -/

/-- two numbers less than `N` apart with the same residue mod `N` are equal -/
theorem eq_of_mod_eq_of_lt_add {x y N : Nat} (e : x % N = y % N) (hx : x < y + N) (hy : y < x + N) : x = y := by
  have key : ∀ {a b : Nat}, a ≤ b → b < a + N → a % N = b % N → a = b := by
    intro a b hab hb e
    have hd : (b - a) % N = 0 := Nat.sub_mod_eq_zero_of_mod_eq e.symm
    rw [Nat.mod_eq_of_lt (by omega)] at hd
    omega
  rcases Nat.le_total x y with h | h
  · exact key h hy e
  · exact (key h hx e.symm).symm

/-! ## lists -/

theorem getElem?_append_of_some {α : Type} {l l' : List α} {k : Nat} {x : α} (h : l[k]? = some x) :
    (l ++ l')[k]? = some x := by
  rw [List.getElem?_append_left (List.getElem?_eq_some_iff.mp h).1]; exact h

theorem nodup_snoc {α : Type} {l : List α} {a : α} : (l ++ [a]).Nodup ↔ l.Nodup ∧ a ∉ l := by
  simp [List.nodup_append, eq_comm]
  exact fun _ => ⟨fun h hm => h a hm rfl, fun h b hb e => h (e ▸ hb)⟩

theorem nodup_map {l : List Nat} {f : Nat → Nat} (hn : l.Nodup) (hf : ∀ x ∈ l, ∀ y ∈ l, f x = f y → x = y) :
    (l.map f).Nodup := by
  unfold List.Nodup
  rw [List.pairwise_map]
  exact List.Pairwise.imp_of_mem (fun hx hy hxy e => hxy (hf _ hx _ hy e)) hn

/-- multiset inclusion gives a length bound -/
theorem length_le_of_count_le {α : Type} [DecidableEq α] :
    ∀ (l₁ l₂ : List α), (∀ a, l₁.count a ≤ l₂.count a) → l₁.length ≤ l₂.length
  | [], _, _ => Nat.zero_le _
  | a :: l, l₂, h => by
    have ha : a ∈ l₂ := List.count_pos_iff.1 (by have := h a; simp at this; omega)
    have := length_le_of_count_le l (l₂.erase a) fun b => by
      have := h b
      rw [List.count_erase, List.count_cons] at *
      split <;> simp_all <;> omega
    rw [List.length_erase_of_mem ha] at this
    have := List.length_pos_of_mem ha
    simp; omega

theorem getLast?_eq_some_iff_snoc {l : List Nat} {v : Nat} : l.getLast? = some v ↔ l = l.dropLast ++ [v] := by
  constructor
  · intro h
    obtain ⟨ys, rfl⟩ := List.getLast?_eq_some_iff.1 h
    simp
  · intro h; rw [h]; simp

/-! ## runs of a machine: `run s as = as.foldl apply s` in every model -/

/-- `P` holds after the run if every step keeps it while `ok` holds, `ok` being a condition on the state and the actions
    still to come (such as `RunOk`) that passes on to the rest of the run.  Without such a condition, core's
    `List.foldlRecOn` does (it also provides `a ∈ as`). -/
theorem foldl_of_ok {σ α : Type} {f : σ → α → σ} {ok : σ → List α → Prop} {P : σ → Prop}
    (hstep : ∀ s a as, P s → ok s (a :: as) → P (f s a) ∧ ok (f s a) as) :
    ∀ (as : List α) (s : σ), P s → ok s as → P (as.foldl f s)
  | [], _, h, _ => h
  | a :: as, s, h, hok => foldl_of_ok hstep as (f s a) (hstep s a as h hok).1 (hstep s a as h hok).2

/-- If the action `a`, taken in an `ok` state whose measure is not yet zero, lowers the measure and keeps `ok`, then `a`
    repeated at most `m s` times brings the measure to zero. -/
theorem foldl_replicate_of_measure {σ α : Type} {f : σ → α → σ} {a : α} {m : σ → Nat} {ok : σ → Prop}
    (hstep : ∀ s, ok s → m s ≠ 0 → m (f s a) < m s ∧ ok (f s a)) (s : σ) (h : ok s) :
    ∃ k, k ≤ m s ∧ m ((List.replicate k a).foldl f s) = 0 ∧ ok ((List.replicate k a).foldl f s) := by
  generalize hn : m s = n
  induction n using Nat.strongRecOn generalizing s with
  | _ n ih =>
    by_cases h0 : m s = 0
    · exact ⟨0, Nat.zero_le _, h0, h⟩
    · obtain ⟨h1, h2⟩ := hstep s h h0
      obtain ⟨k, hk, r⟩ := ih _ (hn ▸ h1) _ h2 rfl
      exact ⟨k + 1, by omega, r⟩

/-! ## values held by one thread at most -/

/-- no value is given twice -/
def Inj (f : Nat → Option Nat) : Prop := ∀ t u x, f t = some x → f u = some x → t = u

/-- `g` differs from `f` at `t` only, where its value is the old one or one nobody had -/
theorem Inj.set {f g : Nat → Option Nat} {t : Nat} (h : Inj f) (hg : ∀ u, u ≠ t → g u = f u)
    (hnew : ∀ x, g t = some x → f t = some x ∨ ∀ u, f u ≠ some x) : Inj g := by
  intro u w x hu hw
  have := h u w x; have := hnew x; have := hg u; have := hg w
  grind

/-! ## counting by enumeration -/

/-- exactly `n` values satisfy `p` -/
def Card {α : Type} (p : α → Prop) (n : Nat) : Prop :=
  ∃ l : List α, l.Nodup ∧ (∀ x, x ∈ l ↔ p x) ∧ l.length = n

namespace Card
variable {α : Type} {p q : α → Prop} {n m : Nat}

theorem congr (h : Card p n) (hiff : ∀ x, q x ↔ p x) : Card q n := by
  obtain ⟨l, hn, hm, hl⟩ := h
  exact ⟨l, hn, fun x => (hm x).trans (hiff x).symm, hl⟩

theorem insert (h : Card p n) {k : α} (hk : ¬ p k) (hiff : ∀ x, q x ↔ (p x ∨ x = k)) : Card q (n + 1) := by
  obtain ⟨l, hn, hm, hl⟩ := h
  refine ⟨k :: l, List.nodup_cons.2 ⟨fun hx => hk ((hm k).1 hx), hn⟩, fun x => ?_, by simp [hl]⟩
  rw [List.mem_cons, hm x, hiff x, or_comm]

theorem erase [DecidableEq α] (h : Card p n) {k : α} (hk : p k) (hiff : ∀ x, q x ↔ (p x ∧ x ≠ k)) :
    Card q (n - 1) ∧ 1 ≤ n := by
  obtain ⟨l, hn, hm, hl⟩ := h
  have hmem : k ∈ l := (hm k).2 hk
  refine ⟨⟨l.erase k, hn.erase k, fun x => ?_, by rw [List.length_erase_of_mem hmem, hl]⟩,
    hl ▸ List.length_pos_of_mem hmem⟩
  rw [hn.mem_erase_iff, hm x, hiff x, and_comm]

theorem pos (h : Card p n) {k : α} (hk : p k) : 1 ≤ n := by
  obtain ⟨l, _, hm, hl⟩ := h
  exact hl ▸ List.length_pos_of_mem ((hm k).2 hk)

/-- fewer things satisfy the stronger predicate -/
theorem le_of_imp (hp : Card p n) (hq : Card q m) (himp : ∀ x, p x → q x) : n ≤ m := by
  obtain ⟨l, hn, hm, hl⟩ := hp
  obtain ⟨l', _, hm', hl'⟩ := hq
  rw [← hl, ← hl']
  exact hn.length_le_of_subset fun x hx => (hm' x).2 (himp x ((hm x).1 hx))

theorem unique (hp : Card p n) (hq : Card p m) : n = m :=
  Nat.le_antisymm (le_of_imp hp hq fun _ h => h) (le_of_imp hq hp fun _ h => h)

end Card

/-- a list of `n` distinct numbers below `n` has them all -/
theorem mem_of_nodup_of_length_eq {l : List Nat} {n : Nat} (hn : l.Nodup) (hlt : ∀ x ∈ l, x < n)
    (hlen : l.length = n) {x : Nat} (hx : x < n) : x ∈ l := by
  apply Classical.byContradiction
  intro hnot
  have := (List.nodup_cons.2 ⟨hnot, hn⟩).length_le_of_subset (l₂ := List.range n) (by
    intro y hy
    rcases List.mem_cons.1 hy with rfl | hy
    · exact List.mem_range.2 hx
    · exact List.mem_range.2 (hlt y hy))
  simp only [List.length_cons, List.length_range] at this
  omega

/-- pigeonhole: every number of `[a, a + n)` is related to a value below `T`, no value to two numbers -/
theorem le_of_rel_inj {R : Nat → Nat → Prop} {a T : Nat} (hinj : ∀ k k' x, R k x → R k' x → k = k') :
    ∀ n, (∀ k, a ≤ k → k < a + n → ∃ x, x < T ∧ R k x) → n ≤ T := by
  suffices ∀ n, (∀ k, a ≤ k → k < a + n → ∃ x, x < T ∧ R k x) →
      ∃ l : List Nat, l.Nodup ∧ l.length = n ∧ ∀ x ∈ l, x < T ∧ ∃ k, k < a + n ∧ R k x by
    intro n hex
    obtain ⟨l, hn, hl, hm⟩ := this n hex
    have := hn.length_le_of_subset (l₂ := List.range T) fun x hx => List.mem_range.2 (hm x hx).1
    simpa [hl] using this
  intro n
  induction n with
  | zero => intro _; exact ⟨[], List.nodup_nil, rfl, by simp⟩
  | succ n ih =>
    intro hex
    obtain ⟨l, hn, hl, hm⟩ := ih fun k h1 h2 => hex k h1 (by omega)
    obtain ⟨x, hx, hR⟩ := hex (a + n) (by omega) (by omega)
    refine ⟨x :: l, List.nodup_cons.2 ⟨fun hmem => ?_, hn⟩, by simp [hl], fun y hy => ?_⟩
    · obtain ⟨_, k, hk, hR'⟩ := hm x hmem
      have := hinj _ _ _ hR hR'; omega
    · rcases List.mem_cons.1 hy with rfl | hy
      · exact ⟨hx, a + n, by omega, hR⟩
      · obtain ⟨h1, k, hk, hR'⟩ := hm y hy
        exact ⟨h1, k, by omega, hR'⟩

/-- the same for an injective function on `[a, a + n)` -/
theorem Ring.pigeon : ∀ (T n a : Nat) (f : Nat → Nat), (∀ i, i < n → f (a + i) < T) →
    (∀ i j, i < n → j < n → f (a + i) = f (a + j) → i = j) → n ≤ T := by
  intro T n a f hlt hinj
  refine le_of_rel_inj (R := fun k x => (a ≤ k ∧ k < a + n) ∧ f k = x) (a := a) (fun k k' x h h' => ?_) n
    fun k h1 h2 => ⟨f k, ?_, ⟨h1, h2⟩, rfl⟩
  · have := hinj (k - a) (k' - a) (by omega) (by omega) (by
      rw [Nat.add_sub_cancel' h.1.1, Nat.add_sub_cancel' h'.1.1, h.2, h'.2])
    omega
  · have := hlt (k - a) (by omega)
    rwa [Nat.add_sub_cancel' h1] at this

/-! ## a bounded FIFO in a ring buffer, with its ghost history (both ring models) -/

/-- `acc[k]` is the value published with sequence number `k`; the numbers below `hd` have been delivered (`del`, in
    order), those of `[hd, tl)` sit in the buffer at index `k % N` -/
structure Fifo (N hd tl : Nat) (buf : Nat → Nat) (acc : List Nat) (del : List (Nat × Nat × Nat)) : Prop where
  npos : 0 < N
  hHT : hd ≤ tl
  hTN : tl ≤ hd + N
  accLen : acc.length = tl
  bufOk : ∀ k, hd ≤ k → k < tl → acc[k]? = some (buf (k % N))
  delIds : del.map (·.2.1) = List.range hd
  delVals : del.map (·.2.2) = acc.take hd

namespace Fifo
variable {N hd tl : Nat} {buf : Nat → Nat} {acc : List Nat} {del : List (Nat × Nat × Nat)}

/-- the slot of a number of the window that is not published yet is written -/
theorem write (h : Fifo N hd tl buf acc del) {id : Nat} (h1 : tl ≤ id) (h2 : id < hd + N) (v : Nat) :
    Fifo N hd tl (fun j => if j = id % N then v else buf j) acc del :=
  { h with
    bufOk := fun k k1 k2 => by
      have : k % N ≠ id % N := fun e => by have := eq_of_mod_eq_of_lt_add e (by omega) (by omega); omega
      rw [if_neg this]; exact h.bufOk k k1 k2 }

theorem publish (h : Fifo N hd tl buf acc del) (hroom : tl < hd + N) :
    Fifo N hd (tl + 1) buf (acc ++ [buf (tl % N)]) del where
  npos := h.npos
  hHT := Nat.le_succ_of_le h.hHT
  hTN := hroom
  accLen := by simp [h.accLen]
  bufOk k k1 k2 := by
    by_cases hk : k = tl
    · rw [hk, ← h.accLen, List.getElem?_concat_length, h.accLen]
    · rw [List.getElem?_append_left (by have := h.accLen; omega)]; exact h.bufOk k k1 (by omega)
  delIds := h.delIds
  delVals := by rw [List.take_append_of_le_length (by have := h.hHT; have := h.accLen; omega)]; exact h.delVals

theorem consume (h : Fifo N hd tl buf acc del) (hne : hd < tl) {v : Nat} (hv : acc[hd]? = some v) (t : Nat) :
    Fifo N (hd + 1) tl buf acc (del ++ [(t, hd, v)]) where
  npos := h.npos
  hHT := hne
  hTN := by have := h.hTN; omega
  accLen := h.accLen
  bufOk k k1 k2 := h.bufOk k (by omega) k2
  delIds := by simp [h.delIds, List.range_succ]
  delVals := by simp [h.delVals, List.take_add_one, hv]

theorem length_drop (h : Fifo N hd tl buf acc del) : (acc.drop hd).length = tl - hd := by simp [h.accLen]

theorem drop_eq_nil (h : Fifo N hd tl buf acc del) : acc.drop hd = [] ↔ hd = tl := by
  rw [← List.length_eq_zero_iff, h.length_drop]; have := h.hHT; omega

/-! the pending content `acc.drop hd`: publishing appends at its back, its front sits in the slot of `hd` -/

theorem drop_snoc (h : Fifo N hd tl buf acc del) (v : Nat) : (acc ++ [v]).drop hd = acc.drop hd ++ [v] :=
  List.drop_append_of_le_length (by have := h.hHT; have := h.accLen; omega)

theorem drop_cons (h : Fifo N hd tl buf acc del) (hne : hd < tl) : acc.drop hd = buf (hd % N) :: acc.drop (hd + 1) := by
  rw [List.drop_eq_getElem?_toList_append, h.bufOk hd (Nat.le_refl _) hne]; rfl

/-! what the histories say (the C01 facts of both ring models) -/

/-- a delivered entry carries a sequence number below `hd` and the value accepted under that number -/
theorem mem_del (h : Fifo N hd tl buf acc del) {t k v : Nat} (hm : (t, k, v) ∈ del) : k < hd ∧ acc[k]? = some v := by
  obtain ⟨i, hi⟩ := List.mem_iff_getElem?.mp hm
  have h1 : (del.map (·.2.1))[i]? = some k := by simp [hi]
  have h2 : (del.map (·.2.2))[i]? = some v := by simp [hi]
  rw [h.delIds] at h1
  rw [h.delVals, List.getElem?_take] at h2
  have hlt : i < hd := by simpa using (List.getElem?_eq_some_iff.mp h1).1
  rw [List.getElem?_range hlt] at h1
  obtain rfl := Option.some.inj h1
  exact ⟨hlt, by simpa [hlt] using h2⟩

/-- a published number has been delivered or is still intact in its slot -/
theorem no_loss (h : Fifo N hd tl buf acc del) {k : Nat} (hk : k < tl) :
    (∃ t v, (t, k, v) ∈ del) ∨ (hd ≤ k ∧ acc[k]? = some (buf (k % N))) := by
  by_cases hk' : k < hd
  · have : k ∈ del.map (·.2.1) := by rw [h.delIds]; exact List.mem_range.mpr hk'
    obtain ⟨⟨t, k', v⟩, hm, rfl⟩ := List.mem_map.mp this
    exact .inl ⟨t, v, hm⟩
  · exact .inr ⟨by omega, h.bufOk k (by omega) hk⟩

end Fifo

end Mutiny
