import Mutiny.Proofs.Basic

/-!
# Threads holding the numbers of an interval

The rings hand out consecutive sequence numbers; a thread keeps the number it claimed in a register until it publishes,
releases or gives it back.  `Owns f lo hi`: the numbers held (`f t` = the number thread `t` holds) are exactly those of
`[lo, hi)`, each by one thread.  A step of thread `t` keeps what `t` holds, makes it claim the next number, or makes it let
go of the first or the last one.
-/

namespace Mutiny

structure Owns (f : Nat → Option Nat) (lo hi : Nat) : Prop where
  range : ∀ t k, f t = some k → lo ≤ k ∧ k < hi
  uniq : Inj f
  cover : ∀ k, lo ≤ k → k < hi → ∃ t, f t = some k

/-- thread `t` now holds `x` -/
def setHold (f : Nat → Option Nat) (t : Nat) (x : Option Nat) : Nat → Option Nat := fun u => if u = t then x else f u

/-- `Owns` read with the holdings as a relation, the way the `Inv` structures state it -/
theorem owns_iff_rel {R : Nat → Nat → Prop} {f : Nat → Option Nat} (hR : ∀ t k, R t k ↔ f t = some k) (lo hi : Nat) :
    Owns f lo hi ↔ (∀ t k, R t k → lo ≤ k ∧ k < hi) ∧ (∀ t u k, R t k → R u k → t = u) ∧
      ∀ k, lo ≤ k → k < hi → ∃ t, R t k := by
  simp only [hR]
  exact ⟨fun h => ⟨h.range, h.uniq, h.cover⟩, fun ⟨h1, h2, h3⟩ => ⟨h1, h2, h3⟩⟩

namespace Owns
variable {f : Nat → Option Nat} {lo hi t : Nat}

theorem keep (h : Owns f lo hi) {x : Option Nat} (e : f t = x) : Owns (setHold f t x) lo hi := by
  have : setHold f t x = f := by funext u; simp only [setHold]; split <;> simp_all
  rwa [this]

/-- `t` claims the next number -/
theorem claim (h : Owns f lo hi) (hle : lo ≤ hi) (ht : f t = none) : Owns (setHold f t (some hi)) lo (hi + 1) where
  range u k hu := by
    simp only [setHold] at hu; split at hu
    · cases hu; omega
    · have := h.range u k hu; omega
  uniq := h.uniq.set (fun _ hu => if_neg hu) fun x e => .inr fun u hu => by
    simp only [setHold, if_pos] at e; cases e; have := h.range u hi hu; omega
  cover k h1 h2 := by
    by_cases hk : k = hi
    · exact ⟨t, by simp [setHold, hk]⟩
    · obtain ⟨u, hu⟩ := h.cover k h1 (by omega)
      exact ⟨u, by simp only [setHold]; split <;> simp_all⟩

/-- `t` lets go of the number `k` it holds; `[lo', hi')` is `[lo, hi)` without `k` -/
theorem drop (h : Owns f lo hi) {k lo' hi' : Nat} (ht : f t = some k)
    (hk : ∀ j, (lo' ≤ j ∧ j < hi') ↔ (lo ≤ j ∧ j < hi ∧ j ≠ k)) : Owns (setHold f t none) lo' hi' where
  range u j hu := by
    simp only [setHold] at hu; split at hu
    · cases hu
    · rename_i hut
      have := h.range u j hu
      exact (hk j).2 ⟨this.1, this.2, fun e => hut (h.uniq u t j hu (e ▸ ht))⟩
  uniq := h.uniq.set (fun _ hu => if_neg hu) fun x e => by simp [setHold] at e
  cover j h1 h2 := by
    obtain ⟨a, b, c⟩ := (hk j).1 ⟨h1, h2⟩
    obtain ⟨u, hu⟩ := h.cover j a b
    refine ⟨u, ?_⟩
    simp only [setHold]; split
    · subst u; rw [ht] at hu; cases hu; exact absurd rfl c
    · exact hu

/-- `t`, holder of the last number, gives it back -/
theorem giveBack (h : Owns f lo hi) {k : Nat} (ht : f t = some k) (hk : hi = k + 1) : Owns (setHold f t none) lo k :=
  h.drop ht fun j => by have := h.range t k ht; omega

/-- `t`, holder of the first number, passes it on (publishes / releases it) -/
theorem pass (h : Owns f lo hi) (ht : f t = some lo) : Owns (setHold f t none) (lo + 1) hi :=
  h.drop ht fun j => by have := h.range t lo ht; omega

/-- when only the threads below `T` hold anything, at most `T` numbers are held -/
theorem le_threads (h : Owns f lo hi) {T : Nat} (hT : ∀ t, T ≤ t → f t = none) : hi ≤ lo + T := by
  have := le_of_rel_inj (R := fun k t => f t = some k) (a := lo) (T := T)
    (fun k k' t h1 h2 => Option.some.inj (h1.symm.trans h2)) (hi - lo)
    fun k h1 h2 => (h.cover k h1 (by omega)).imp fun t ht =>
      ⟨Nat.lt_of_not_le (fun hge => by rw [hT t hge] at ht; cases ht), ht⟩
  omega

end Owns
end Mutiny
