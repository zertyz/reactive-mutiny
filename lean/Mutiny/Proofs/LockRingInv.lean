import Mutiny.Model.LockRing
import Mutiny.Proofs.SpinFlag
import Mutiny.Proofs.Basic

/-!
# Inductive invariant of the `LockRing` model (`FullSyncMove` under one spin flag)

`Inv` is read in three parts (`inv_iff`): the lock discipline (`SpinFlag.Excl`), the ring (`Fifo`), and what a thread
parked at `l` relies on about the counters (`LocOK`).  Only points inside the region carry such a fact, and at most
one thread is inside: whoever changes the ring has nobody else's facts to keep true.  So no monotonicity lemma is
needed, and one frame lemma per side of the flag (`Inv.own`, `Inv.other`) does all of `inv_step`.
`holder` and `LocOK` end in a wildcard, as do `next`, `writes`, `blockedLoc` of `LockRingProps`: a new program point is
outside the region, relies on nothing and stays where it is until it is entered there; likewise the model's `tagOf` and,
for a point that carries a counter value, `LockRing32.imgLoc`.
-/

namespace Mutiny.LockRing
open SpinFlag

@[simp] theorem thr_setThr (s : St) (t : Nat) (l : Loc) (u : Nat) :
    (setThr s t l).thr u = if u = t then l else s.thr u := rfl
@[simp] theorem N_setThr (s : St) (t : Nat) (l : Loc) : (setThr s t l).N = s.N := rfl
@[simp] theorem head_setThr (s : St) (t : Nat) (l : Loc) : (setThr s t l).head = s.head := rfl
@[simp] theorem tail_setThr (s : St) (t : Nat) (l : Loc) : (setThr s t l).tail = s.tail := rfl
@[simp] theorem locked_setThr (s : St) (t : Nat) (l : Loc) : (setThr s t l).locked = s.locked := rfl
@[simp] theorem buf_setThr (s : St) (t : Nat) (l : Loc) : (setThr s t l).buf = s.buf := rfl
@[simp] theorem accepted_setThr (s : St) (t : Nat) (l : Loc) : (setThr s t l).accepted = s.accepted := rfl
@[simp] theorem delivered_setThr (s : St) (t : Nat) (l : Loc) : (setThr s t l).delivered = s.delivered := rfl

@[simp] theorem thr_setBuf (s : St) (i v : Nat) : (setBuf s i v).thr = s.thr := rfl
@[simp] theorem N_setBuf (s : St) (i v : Nat) : (setBuf s i v).N = s.N := rfl
@[simp] theorem head_setBuf (s : St) (i v : Nat) : (setBuf s i v).head = s.head := rfl
@[simp] theorem tail_setBuf (s : St) (i v : Nat) : (setBuf s i v).tail = s.tail := rfl
@[simp] theorem locked_setBuf (s : St) (i v : Nat) : (setBuf s i v).locked = s.locked := rfl
@[simp] theorem buf_setBuf (s : St) (i v j : Nat) :
    (setBuf s i v).buf j = if j = i then v else s.buf j := rfl
@[simp] theorem accepted_setBuf (s : St) (i v : Nat) : (setBuf s i v).accepted = s.accepted := rfl
@[simp] theorem delivered_setBuf (s : St) (i v : Nat) : (setBuf s i v).delivered = s.delivered := rfl

@[simp] theorem abs_setThr (s : St) (t : Nat) (l : Loc) : abs (setThr s t l) = abs s := rfl
@[simp] theorem abs_setBuf (s : St) (i v : Nat) : abs (setBuf s i v) = abs s := rfl

theorem step_N (s : St) (t : Nat) : (step s t).N = s.N := by
  unfold step; split <;> (try split) <;> rfl

theorem apply_N (s : St) (a : Act) : (apply s a).N = s.N := by
  cases a <;> simp only [apply, step_N] <;> split <;> simp

/-! ## the invariant -/

/-- Program points at which the thread holds the spin flag. -/
def holder : Loc → Prop
  | .pCheck _ | .pWrite _ _ | .pPublish _ _ | .cLenT | .cLen | .cRead | .cRelease _ => True
  | _ => False

instance : DecidablePred holder := fun l => by
  cases l <;> simp only [holder] <;> infer_instance

structure Inv (s : St) : Prop where
  npos    : 0 < s.N
  ht      : s.head ≤ s.tail
  cap     : s.tail ≤ s.head + s.N
  lockIff : s.locked = true ↔ ∃ t, holder (s.thr t)
  mutex   : ∀ t u, holder (s.thr t) → holder (s.thr u) → t = u
  accLen  : s.accepted.length = s.tail
  bufAcc  : ∀ k, s.head ≤ k → k < s.tail → s.accepted[k]? = some (s.buf (k % s.N))
  pW      : ∀ t v len, s.thr t = .pWrite v len → s.tail - s.head < s.N ∧ len = s.tail - s.head + 1
  pP      : ∀ t v len, s.thr t = .pPublish v len →
              s.tail - s.head < s.N ∧ s.buf (s.tail % s.N) = v ∧ len = s.tail - s.head + 1
  cR      : ∀ t, s.thr t = .cRead → s.head < s.tail
  cRel    : ∀ t v, s.thr t = .cRelease v → s.head < s.tail ∧ s.accepted[s.head]? = some v
  delIdx  : s.delivered.map (·.2.1) = List.range s.head
  delVal  : s.delivered.map (·.2.2) = s.accepted.take s.head

theorem inv_init (n : Nat) (h : 0 < n) : Inv (init n) := by
  constructor <;> simp [init, holder, h]

abbrev Data (s : St) : Prop := Fifo s.N s.head s.tail s.buf s.accepted s.delivered

/-- What a thread parked at `l` relies on: `pW`, `pP`, `cR`, `cRel` of `Inv` by program point. -/
def LocOK (s : St) : Loc → Prop
  | .pWrite _ len => s.tail - s.head < s.N ∧ len = s.tail - s.head + 1
  | .pPublish v len => s.tail - s.head < s.N ∧ s.buf (s.tail % s.N) = v ∧ len = s.tail - s.head + 1
  | .cRead => s.head < s.tail
  | .cRelease v => s.head < s.tail ∧ s.accepted[s.head]? = some v
  | _ => True

theorem Inv.excl {s : St} (h : Inv s) : Excl holder s.locked s.thr := ⟨h.lockIff, h.mutex⟩
theorem Inv.data {s : St} (h : Inv s) : Data s :=
  { npos := h.npos, hHT := h.ht, hTN := h.cap, accLen := h.accLen, bufOk := h.bufAcc, delIds := h.delIdx,
    delVals := h.delVal }

theorem inv_iff {s : St} : Inv s ↔ Excl holder s.locked s.thr ∧ Data s ∧ ∀ t, LocOK s (s.thr t) := by
  constructor
  · intro h
    refine ⟨h.excl, h.data, fun t => ?_⟩
    cases e : s.thr t with
    | pWrite v len => exact h.pW t v len e
    | pPublish v len => exact h.pP t v len e
    | cRead => exact h.cR t e
    | cRelease v => exact h.cRel t v e
    | _ => trivial
  · rintro ⟨x, d, r⟩
    have loc {t l} (e : s.thr t = l) : LocOK s l := e ▸ r t
    exact { npos := d.npos, ht := d.hHT, cap := d.hTN, lockIff := x.flagIff, mutex := x.mutex, accLen := d.accLen,
            bufAcc := d.bufOk, delIdx := d.delIds, delVal := d.delVals,
            pW := fun _ _ _ => loc, pP := fun _ _ _ => loc, cR := fun _ => loc, cRel := fun _ _ => loc }

theorem LocOK.of_out {s : St} {l : Loc} (h : ¬ holder l) : LocOK s l := by
  cases l <;> simp_all [holder, LocOK]

/-! ## the frame lemmas: a thread outside the region, and the thread inside

`ht : s.thr t = l₀`: at a call `l₀` is a constructor, and `holder l₀` reduces to `True` or `False`. -/

theorem Inv.other {s : St} {t : Nat} {l₀ l : Loc} (h : Inv s) (ht : s.thr t = l₀) (h1 : ¬ holder l₀)
    (h2 : ¬ holder l) : Inv (setThr s t l) := by
  subst ht
  obtain ⟨x, d, r⟩ := inv_iff.1 h
  refine inv_iff.2 ⟨x.other h1 h2, d, fun u => ?_⟩
  simp only [thr_setThr]; split
  · exact .of_out h2
  · exact r u

/-- The thread inside the region, or one that finds the flag free, may do anything that leaves the ring in order, the
flag following it, and its own registers right: nobody else is inside to be disturbed. -/
theorem Inv.own {s s' : St} {t : Nat} {l : Loc} (h : Inv s) (ht : Sole holder s.locked s.thr t)
    (hthr : s'.thr = fun u => if u = t then l else s.thr u) (hlk : s'.locked = true ↔ holder l)
    (hd : Data s') (hl : LocOK s' l) : Inv s' := by
  have x := h.excl
  refine inv_iff.2 ⟨hthr ▸ x.own ht hlk, hd, fun u => ?_⟩
  simp only [hthr]; split
  next => exact hl
  next hu => exact .of_out (x.others_out ht hu)

theorem Inv.acquire {s s' : St} {t : Nat} {l : Loc} (h : Inv s)
    (hthr : s'.thr = fun u => if u = t then l else s.thr u) (hf : s.locked = false) (hl' : holder l)
    (hlk : s'.locked = true) (hd : Data s') (hl : LocOK s' l) : Inv s' :=
  h.own (.inr hf) hthr (iff_of_true hlk hl') hd hl

theorem Inv.inside {s s' : St} {t : Nat} {l₀ l : Loc} (h : Inv s) (ht : s.thr t = l₀) (h₀ : holder l₀)
    (hthr : s'.thr = fun u => if u = t then l else s.thr u) (hl' : holder l)
    (hlk : s'.locked = s.locked) (hd : Data s') (hl : LocOK s' l) : Inv s' := by
  subst ht
  exact h.own (.inl h₀) hthr (iff_of_true (hlk.trans (h.lockIff.2 ⟨t, h₀⟩)) hl') hd hl

theorem Inv.release {s s' : St} {t : Nat} {l₀ l : Loc} (h : Inv s) (ht : s.thr t = l₀) (h₀ : holder l₀)
    (hthr : s'.thr = fun u => if u = t then l else s.thr u) (hl' : ¬ holder l)
    (hlk : s'.locked = false) (hd : Data s') : Inv s' := by
  subst ht
  exact h.own (.inl h₀) hthr (iff_of_false (by simp [hlk]) hl') hd (.of_out hl')

/-! ## preservation -/

theorem inv_step (s : St) (t : Nat) (h : Inv s) : Inv (step s t) := by
  have d := h.data
  cases ht : s.thr t <;> simp only [step, ht]
  case idle | done => exact h
  case pFullUnlocked | pUnlocked | cEmptyUnlocked | cUnlocked | lLen | lLenH => exact h.other ht id id
  case pLock | pSpin | cLock | cSpin =>
    split
    next => exact h.other ht id id
    next hf => exact h.acquire rfl (eq_false_of_ne_true hf) trivial rfl d trivial
  case pCheck v =>
    split
    next hroom => exact h.inside ht trivial rfl trivial rfl d ⟨hroom, rfl⟩
    next => exact h.release ht trivial rfl id rfl d
  case pWrite v len =>
    obtain ⟨hlt, hlen⟩ := h.pW t v len ht
    exact h.inside ht trivial rfl trivial rfl (d.write (Nat.le_refl _) (by omega) v) ⟨hlt, by simp, hlen⟩
  case pPublish v len =>
    obtain ⟨hlt, rfl, -⟩ := h.pP t v len ht
    exact h.release ht trivial rfl id rfl (d.publish (by omega))
  case cLenT => exact h.inside ht trivial rfl trivial rfl d trivial
  case cLen =>
    split
    · exact h.inside ht trivial rfl trivial rfl d (by show s.head < s.tail; omega)
    · exact h.release ht trivial rfl id rfl d
  case cRead =>
    have hlt := h.cR t ht
    exact h.inside ht trivial rfl trivial rfl d ⟨hlt, d.bufOk s.head (Nat.le_refl _) hlt⟩
  case cRelease v =>
    obtain ⟨hlt, hv⟩ := h.cRel t v ht
    exact h.release ht trivial rfl id rfl (d.consume hlt hv t)

theorem inv_apply (s : St) (a : Act) (h : Inv s) : Inv (apply s a) := by
  cases a with
  | step t => exact inv_step s t h
  | send t _ | recv t | len t | ack t =>
    simp only [apply]; split
    next e => exact h.other e id id
    next => exact h

@[simp] theorem run_nil (s : St) : run s [] = s := rfl
@[simp] theorem run_cons (s : St) (a : Act) (as : List Act) : run s (a :: as) = run (apply s a) as := rfl
theorem run_append (s : St) (as bs : List Act) : run s (as ++ bs) = run (run s as) bs := by
  simp [run, List.foldl_append]

theorem inv_run (s : St) (as : List Act) (h : Inv s) : Inv (run s as) :=
  List.foldlRecOn as apply h fun s hs a _ => inv_apply s a hs

theorem reachable_inv {n : Nat} {s : St} (hn : 0 < n) (h : Reachable n s) : Inv s := by
  obtain ⟨as, rfl⟩ := h
  exact inv_run _ as (inv_init n hn)

theorem reachable_run {n : Nat} {s : St} (h : Reachable n s) (as : List Act) : Reachable n (run s as) := by
  obtain ⟨bs, rfl⟩ := h
  exact ⟨bs ++ as, (run_append _ _ _).symm⟩

theorem reachable_apply {n : Nat} {s : St} (h : Reachable n s) (a : Act) : Reachable n (apply s a) :=
  reachable_run h [a]

theorem reachable_step {n : Nat} {s : St} (h : Reachable n s) (t : Nat) : Reachable n (step s t) :=
  reachable_apply h (.step t)

end Mutiny.LockRing
