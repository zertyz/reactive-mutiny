import Mutiny.Model.Multi

/-!
# `Multi` model (M6 + M7): what `setThr`, `publish`, `run`, `stepN` do to each field, and `step` at each program point

`step_at_…` : the step of a thread that stands at the given location, as `setThr (update of s) t l'`; the location is
part of the left-hand side (`setThr s t l`), so the equations chain by `rw` when one call runs with nobody interleaving,
and `step_of_at` turns them into `step s t = …` from `s.thr t = l`.
-/

namespace Mutiny.Multi

attribute [ext] St

@[simp] theorem thr_setThr (s : St) (t : Nat) (l : Loc) (u : Nat) :
    (setThr s t l).thr u = if u = t then l else s.thr u := rfl
@[simp] theorem MAX_setThr (s : St) (t : Nat) (l : Loc) : (setThr s t l).MAX = s.MAX := rfl
@[simp] theorem N_setThr (s : St) (t : Nat) (l : Loc) : (setThr s t l).N = s.N := rfl
@[simp] theorem flavor_setThr (s : St) (t : Nat) (l : Loc) : (setThr s t l).flavor = s.flavor := rfl
@[simp] theorem drains_setThr (s : St) (t : Nat) (l : Loc) : (setThr s t l).drains = s.drains := rfl
@[simp] theorem vacant_setThr (s : St) (t : Nat) (l : Loc) : (setThr s t l).vacant = s.vacant := rfl
@[simp] theorem used_setThr (s : St) (t : Nat) (l : Loc) : (setThr s t l).used = s.used := rfl
@[simp] theorem count_setThr (s : St) (t : Nat) (l : Loc) : (setThr s t l).count = s.count := rfl
@[simp] theorem keep_setThr (s : St) (t : Nat) (l : Loc) : (setThr s t l).keep = s.keep := rfl
@[simp] theorem queues_setThr (s : St) (t : Nat) (l : Loc) : (setThr s t l).queues = s.queues := rfl
@[simp] theorem slock_setThr (s : St) (t : Nat) (l : Loc) : (setThr s t l).slock = s.slock := rfl
@[simp] theorem live_setThr (s : St) (t : Nat) (l : Loc) : (setThr s t l).live = s.live := rfl
@[simp] theorem inc_setThr (s : St) (t : Nat) (l : Loc) : (setThr s t l).inc = s.inc := rfl
@[simp] theorem delivered_setThr (s : St) (t : Nat) (l : Loc) : (setThr s t l).delivered = s.delivered := rfl
@[simp] theorem pubs_setThr (s : St) (t : Nat) (l : Loc) : (setThr s t l).pubs = s.pubs := rfl
@[simp] theorem refs_setThr (s : St) (t : Nat) (l : Loc) : (setThr s t l).refs = s.refs := rfl
@[simp] theorem sent_setThr (s : St) (t : Nat) (l : Loc) : (setThr s t l).sent = s.sent := rfl
@[simp] theorem started_setThr (s : St) (t : Nat) (l : Loc) : (setThr s t l).started = s.started := rfl

theorem MAX_publish (s : St) (ev id : Nat) : (publish s ev id).MAX = s.MAX := rfl
theorem N_publish (s : St) (ev id : Nat) : (publish s ev id).N = s.N := rfl
theorem flavor_publish (s : St) (ev id : Nat) : (publish s ev id).flavor = s.flavor := rfl
theorem drains_publish (s : St) (ev id : Nat) : (publish s ev id).drains = s.drains := rfl
theorem vacant_publish (s : St) (ev id : Nat) : (publish s ev id).vacant = s.vacant := rfl
theorem used_publish (s : St) (ev id : Nat) : (publish s ev id).used = s.used := rfl
theorem count_publish (s : St) (ev id : Nat) : (publish s ev id).count = s.count := rfl
theorem keep_publish (s : St) (ev id : Nat) : (publish s ev id).keep = s.keep := rfl
theorem slock_publish (s : St) (ev id : Nat) : (publish s ev id).slock = s.slock := rfl
theorem thr_publish (s : St) (ev id : Nat) : (publish s ev id).thr = s.thr := rfl
theorem live_publish (s : St) (ev id : Nat) : (publish s ev id).live = s.live := rfl
theorem inc_publish (s : St) (ev id : Nat) : (publish s ev id).inc = s.inc := rfl
theorem delivered_publish (s : St) (ev id : Nat) : (publish s ev id).delivered = s.delivered := rfl
theorem refs_publish (s : St) (ev id : Nat) : (publish s ev id).refs = s.refs := rfl
theorem sent_publish (s : St) (ev id : Nat) : (publish s ev id).sent = s.sent := rfl
theorem started_publish (s : St) (ev id : Nat) : (publish s ev id).started = s.started := rfl
theorem queues_publish (s : St) (ev id : Nat) :
    (publish s ev id).queues = fun j => if j = id then s.queues j ++ [ev] else s.queues j := rfl
theorem pubs_publish (s : St) (ev id : Nat) : (publish s ev id).pubs = s.pubs ++ [(ev, id)] := rfl

theorem setThr_setThr (s : St) (t : Nat) (a b : Loc) : setThr (setThr s t a) t b = setThr s t b := by
  apply St.ext <;> dsimp only [setThr]
  funext u
  split <;> rfl

theorem setThr_self {s : St} {t : Nat} {a : Loc} (h : s.thr t = a) : setThr s t a = s := by
  apply St.ext <;> dsimp only [setThr]
  exact funext fun _ => ite_eq_right_iff.2 fun e => e ▸ h.symm

theorem thr_setThr_self (s : St) (t : Nat) (l : Loc) : (setThr s t l).thr t = l := if_pos rfl

/-- a state built over `setThr y t a` by updating fields other than `thr`: moving `t` again forgets `a` -/
theorem setThr_absorb {x y : St} {t : Nat} {a b : Loc} (h : x = setThr y t a) : setThr x t b = setThr y t b := by
  rw [h, setThr_setThr]

theorem ite_upd_upd (r : Nat → Nat) (ev : Nat) (f g : Nat → Nat) (e : Nat) :
    (if e = ev then g (if e = ev then f (r e) else r e) else (if e = ev then f (r e) else r e)) =
      if e = ev then g (f (r e)) else r e := by
  by_cases he : e = ev <;> simp only [he, if_true, if_false]

theorem step_of_at {s s' : St} {t : Nat} {l : Loc} (h : s.thr t = l) (e : step (setThr s t l) t = s') :
    step s t = s' := by
  rwa [setThr_self h] at e

theorem step_idle {s : St} {t : Nat} (h : s.thr t = .idle) : step s t = s := by simp only [step, h]
theorem step_done {s : St} {t : Nat} {r : Res} (h : s.thr t = .done r) : step s t = s := by simp only [step, h]

section at_loc
variable {s : St} {t : Nat}

theorem step_at_cCount : step (setThr s t .cCount) t = setThr { s with count := s.count + 1 } t .cVacant := by
  simp only [step, thr_setThr_self]; exact setThr_absorb rfl
theorem step_at_cVacant {id : Nat} {rest : List Nat} (hv : s.vacant = id :: rest) :
    step (setThr s t .cVacant) t = setThr { s with vacant := rest } t (.cFlag id) := by
  simp only [step, thr_setThr_self, vacant_setThr, hv]; exact setThr_absorb rfl
theorem step_at_cVacant_nil (hv : s.vacant = []) : step (setThr s t .cVacant) t = setThr s t .cVacant := by
  simp only [step, thr_setThr_self, vacant_setThr, hv]
theorem step_at_cFlag {id : Nat} :
    step (setThr s t (.cFlag id)) t =
      setThr { s with keep := fun j => if j = id then true else s.keep j, live := s.live ++ [id],
                      inc := fun j => if j = id then s.inc j + 1 else s.inc j } t (.yLock (.id id)) := by
  simp only [step, thr_setThr_self]; exact setThr_absorb rfl
theorem step_at_dDrain {id : Nat} :
    step (setThr s t (.dDrain id)) t =
      setThr { s with queues := fun j => if j = id then [] else s.queues j,
                      refs := fun e => s.refs e - (s.queues id).count e } t (.dCount id) := by
  simp only [step, thr_setThr_self]; exact setThr_absorb rfl
theorem step_at_dCount {id : Nat} :
    step (setThr s t (.dCount id)) t = setThr { s with count := s.count - 1 } t (.dVacant id) := by
  simp only [step, thr_setThr_self]; exact setThr_absorb rfl
theorem step_at_dVacant {id : Nat} :
    step (setThr s t (.dVacant id)) t = setThr { s with vacant := s.vacant ++ [id] } t (.yLock .unit) := by
  simp only [step, thr_setThr_self]; exact setThr_absorb rfl
theorem step_at_lock {r : Res} {l : Loc} (h : l = .yLock r ∨ l = .ySpin r) :
    step (setThr s t l) t =
      if s.slock then setThr s t (.ySpin r) else setThr { s with slock := true } t (.yPeek r) := by
  rcases h with rfl | rfl <;> simp only [step, thr_setThr_self, slock_setThr] <;>
    exact ite_congr rfl (fun _ => setThr_setThr ..) (fun _ => setThr_absorb rfl)
theorem step_at_yPeek_nil {r : Res} (hp : syncPlan s.MAX s.vacant = []) :
    step (setThr s t (.yPeek r)) t = setThr { s with slock := false } t (.done r) := by
  simp only [step, thr_setThr_self, MAX_setThr, vacant_setThr, hp]; exact setThr_absorb rfl
theorem step_at_yPeek {r : Res} {x : Nat} {xs : List Nat} (hp : syncPlan s.MAX s.vacant = x :: xs) :
    step (setThr s t (.yPeek r)) t = setThr s t (.yWrite r 0 (x :: xs)) := by
  simp only [step, thr_setThr_self, MAX_setThr, vacant_setThr, hp]; exact setThr_setThr ..
theorem step_at_yWrite_nil {r : Res} {i : Nat} :
    step (setThr s t (.yWrite r i [])) t = setThr { s with slock := false } t (.done r) := by
  simp only [step, thr_setThr_self]; exact setThr_absorb rfl
theorem step_at_yWrite_last {r : Res} {i x : Nat} :
    step (setThr s t (.yWrite r i [x])) t = setThr { s with used := s.used.set i x, slock := false } t (.done r) := by
  simp only [step, thr_setThr_self]; exact setThr_absorb rfl
theorem step_at_yWrite {r : Res} {i x y : Nat} {more : List Nat} :
    step (setThr s t (.yWrite r i (x :: y :: more))) t =
      setThr { s with used := s.used.set i x } t (.yWrite r (i + 1) (y :: more)) := by
  simp only [step, thr_setThr_self]; exact setThr_absorb rfl
theorem step_at_fArc {ev i id : Nat} :
    step (setThr s t (.fArc ev i id)) t =
      if id = s.MAX then setThr { s with sent := s.sent ++ [ev] } t (.done .unit)
      else if i + 1 < s.MAX then setThr (publish s ev id) t (.fArc ev (i + 1) (s.used.getD (i + 1) s.MAX))
      else setThr { publish s ev id with sent := s.sent ++ [ev] } t (.done .unit) := by
  simp only [step, thr_setThr_self, MAX_setThr]
  exact ite_congr rfl (fun _ => setThr_absorb rfl) fun _ =>
    ite_congr rfl (fun _ => setThr_absorb rfl) fun _ => setThr_absorb rfl
theorem step_at_fCount {ev : Nat} :
    step (setThr s t (.fCount ev)) t =
      if s.count = 0 then
        setThr { s with refs := fun e => if e = ev then s.refs e + s.count - 1 else s.refs e, sent := s.sent ++ [ev] } t
          (.done .unit)
      else
        setThr { s with refs := fun e => if e = ev then s.refs e + s.count else s.refs e } t (.fOgre ev 0 s.count) := by
  simp only [step, thr_setThr_self, count_setThr]
  exact ite_congr rfl (fun _ => (setThr_absorb rfl).trans (congrArg
    (fun r => setThr { s with refs := r, sent := s.sent ++ [ev] } t (.done .unit))
    (funext (ite_upd_upd s.refs ev (· + s.count) (· - 1))))) fun _ => setThr_absorb rfl
/-- one iteration of the `ogre_arc` loop; `s1` is the state after the (conditional) publication: a parameter with its
    equation, so that a caller who knows that the entry is no sentinel passes `publish s ev _`, and one who does not
    passes `rfl` -/
theorem step_at_fOgre {ev i cnt : Nat} {s1 : St}
    (h1 : s1 = if s.used.getD i s.MAX = s.MAX then s else publish s ev (s.used.getD i s.MAX)) :
    step (setThr s t (.fOgre ev i cnt)) t =
      if i + 1 < cnt then setThr s1 t (.fOgre ev (i + 1) cnt)
      else setThr { s1 with refs := fun e => if e = ev then s.refs e - 1 else s.refs e, sent := s.sent ++ [ev] } t
        (.done .unit) := by
  subst h1
  by_cases hg : s.used.getD i s.MAX = s.MAX <;>
    simp only [step, thr_setThr_self, used_setThr, MAX_setThr, hg, if_true, if_false] <;>
    exact ite_congr rfl (fun _ => setThr_absorb rfl) fun _ => setThr_absorb rfl
theorem step_at_pPoll {id ev : Nat} {rest : List Nat} (hq : s.queues id = ev :: rest) :
    step (setThr s t (.pPoll id)) t =
      setThr { s with queues := fun j => if j = id then rest else s.queues j,
                      delivered := s.delivered ++ [(id, s.inc id, ev)] } t (.done (.item (some ev))) := by
  simp only [step, thr_setThr_self, queues_setThr, hq]; exact setThr_absorb rfl
theorem step_at_pPoll_nil {id : Nat} (hq : s.queues id = []) :
    step (setThr s t (.pPoll id)) t = setThr s t (.done (.item none)) := by
  simp only [step, thr_setThr_self, queues_setThr, hq]; exact setThr_setThr ..

end at_loc

theorem run_append (s : St) (as bs : List Act) : run s (as ++ bs) = run (run s as) bs := by
  simp [run, List.foldl_append]

@[simp] theorem run_nil (s : St) : run s [] = s := rfl
@[simp] theorem run_cons (s : St) (a : Act) (as : List Act) : run s (a :: as) = run (apply s a) as := rfl

def stepN (t : Nat) : Nat → St → St
  | 0, s => s
  | k + 1, s => stepN t k (step s t)

@[simp] theorem stepN_zero (t : Nat) (s : St) : stepN t 0 s = s := rfl
theorem stepN_succ (t k : Nat) (s : St) : stepN t (k + 1) s = stepN t k (step s t) := rfl

theorem run_replicate_step (t : Nat) : ∀ (k : Nat) (s : St), run s (List.replicate k (.step t)) = stepN t k s
  | 0, _ => rfl
  | k + 1, s => by simp [List.replicate_succ, stepN_succ, apply, run_replicate_step t k]

theorem stepN_add (t : Nat) : ∀ (a b : Nat) (s : St), stepN t (a + b) s = stepN t b (stepN t a s)
  | 0, b, s => by simp
  | a + 1, b, s => by rw [show a + 1 + b = (a + b) + 1 by omega, stepN_succ, stepN_succ, stepN_add t a b]

theorem stepN_done {s : St} {t : Nat} {r : Res} (h : s.thr t = .done r) : ∀ k, stepN t k s = s
  | 0 => rfl
  | k + 1 => by rw [stepN_succ, step_done h, stepN_done h k]

theorem stepN_of_done {s s' : St} {t a : Nat} {r : Res} (h : stepN t a s = s') (hd : s'.thr t = .done r)
    (k : Nat) (hk : a ≤ k) : stepN t k s = s' := by
  obtain ⟨b, rfl⟩ := Nat.exists_eq_add_of_le hk
  rw [stepN_add, h, stepN_done hd]

/-! ## the parameters of the channel never change -/

structure Params where
  MAX : Nat
  N : Nat
  flavor : Flavor
  drains : Bool

def params (s : St) : Params := ⟨s.MAX, s.N, s.flavor, s.drains⟩

theorem step_params (s : St) (t : Nat) : params (step s t) = params s := by
  simp only [step]
  repeat' split
  all_goals rfl

theorem apply_params (s : St) (a : Act) : params (apply s a) = params s := by
  cases a <;> simp only [apply]
  case step => exact step_params s _
  all_goals repeat' split
  all_goals rfl

theorem run_params (s : St) (as : List Act) : params (run s as) = params s :=
  List.foldlRecOn as apply (motive := fun x => params x = params s) rfl fun x hx a _ => (apply_params x a).trans hx

theorem apply_MAX (s : St) (a : Act) : (apply s a).MAX = s.MAX := congrArg Params.MAX (apply_params s a)

theorem run_MAX (s : St) (as : List Act) : (run s as).MAX = s.MAX := congrArg Params.MAX (run_params s as)

end Mutiny.Multi
