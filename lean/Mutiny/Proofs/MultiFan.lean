import Mutiny.Proofs.MultiSeq

/-!
# `Multi` model (M6 + M7): fan-out to a fixed listener set under arbitrary interleaving

Executions that start in a quiescent well-formed state `s₀` (`WF`) and contain no `create` / `drop` action (`FanAct`):
any number of producer and consumer threads, any interleaving of `.send`, `.poll`, `.release`, `.cancel`, `.ack` and the
micro-steps (`.step`) of `send` and `poll`.  What a step does at each program point is said once, by the `step_at_*`
equations of `MultiStep`; they are read twice here, and neither reading rests on the other:
* `FanInv`, the counting invariant for pairwise distinct events: which listeners each event has reached (`Core`: a prefix
  of the ascending live ids) and the reference-counter accounting (ogre_arc).  At each program point it needs what the
  branch taken says about the progress index under `LocOK`, which `(ev, l)` is published and the new `refs`: a summary
  of the step that forgets the registers cannot carry these.
* `FanEff` / `FanRun`: what an action / an execution does whatever the state and the events (frame, `keep`, queue order,
  who is sending what).  `c03_frame`, `c03_listener_order` and the phases of C17 rest on it alone, having no `Nodup` to
  offer `FanInv`.
A new program point inside a send touches `prog` (it needs a progress value: `hpr` of `relabel`), `LocOK`, `FanLoc`,
`LocOK.congr`, `FanInv.release`, one case in each walk (`fanInv_step`, `fanEff_step`, `lockEff_step` in
`CancelAllLockInv`), its `step_at_*` and, if the call gets longer, `stepN_*` / `call…_eq` in `MultiSeq` (the fuel
`MAX + 6` has room: `create` is the longest call).
-/

namespace Mutiny.Multi

/-! ## list vocabulary -/

/-- the listeners `ev` was published to, in publication order -/
def pubsOf (P : List (Nat × Nat)) (ev : Nat) : List Nat := (P.filter (fun x => x.1 == ev)).map (fun x => x.2)

/-- the events published to listener `l`, in publication order -/
def pubsTo (P : List (Nat × Nat)) (l : Nat) : List Nat := (P.filter (fun x => x.2 == l)).map (fun x => x.1)

/-- the events delivered to listener `l` (any incarnation), in delivery order -/
def dlvOf (D : List (Nat × Nat × Nat)) (l : Nat) : List Nat := (D.filter (fun x => x.1 == l)).map (fun x => x.2.2)

/-- number of deliveries of `ev` (to anybody) -/
def dcount (D : List (Nat × Nat × Nat)) (ev : Nat) : Nat := D.countP (fun x => x.2.2 == ev)

@[simp] theorem pubsOf_nil (ev : Nat) : pubsOf [] ev = [] := rfl
@[simp] theorem pubsTo_nil (l : Nat) : pubsTo [] l = [] := rfl
@[simp] theorem dlvOf_nil (l : Nat) : dlvOf [] l = [] := rfl
@[simp] theorem dcount_nil (ev : Nat) : dcount [] ev = 0 := rfl

theorem pubsOf_append (P Q : List (Nat × Nat)) (ev : Nat) : pubsOf (P ++ Q) ev = pubsOf P ev ++ pubsOf Q ev := by
  simp [pubsOf]

theorem pubsTo_append (P Q : List (Nat × Nat)) (l : Nat) : pubsTo (P ++ Q) l = pubsTo P l ++ pubsTo Q l := by
  simp [pubsTo]

theorem dlvOf_append (D D' : List (Nat × Nat × Nat)) (l : Nat) : dlvOf (D ++ D') l = dlvOf D l ++ dlvOf D' l := by
  simp [dlvOf]

theorem dcount_append (D D' : List (Nat × Nat × Nat)) (ev : Nat) : dcount (D ++ D') ev = dcount D ev + dcount D' ev := by
  simp [dcount]

theorem pubsOf_single (e l ev : Nat) : pubsOf [(e, l)] ev = if e = ev then [l] else [] := by
  by_cases h : e = ev <;> simp [pubsOf, h]

theorem pubsTo_single (e l l' : Nat) : pubsTo [(e, l)] l' = if l = l' then [e] else [] := by
  by_cases h : l = l' <;> simp [pubsTo, h]

theorem count_pair_pubsOf (P : List (Nat × Nat)) (ev l : Nat) : P.count (ev, l) = (pubsOf P ev).count l := by
  simp only [pubsOf, List.count_eq_countP, List.countP_map, List.countP_filter]
  exact List.countP_congr fun x _ => by cases x; simp [and_comm]

theorem count_pair_pubsTo (P : List (Nat × Nat)) (ev l : Nat) : P.count (ev, l) = (pubsTo P l).count ev := by
  simp only [pubsTo, List.count_eq_countP, List.countP_map, List.countP_filter]
  exact List.countP_congr fun x _ => by cases x; simp

theorem mem_pubsOf {P : List (Nat × Nat)} {ev l : Nat} : l ∈ pubsOf P ev ↔ (ev, l) ∈ P := by
  rw [← List.count_pos_iff, ← List.count_pos_iff, count_pair_pubsOf]

theorem not_mem_of_pubsOf_nil {P : List (Nat × Nat)} {ev : Nat} (h : pubsOf P ev = []) (l : Nat) : (ev, l) ∉ P :=
  fun hm => List.not_mem_nil (h ▸ mem_pubsOf.2 hm)

/-! ## the per-event progress invariant, abstractly

`ids` = the ascending live ids; `pr t = some (ev, i)` = thread `t` is inside a send of `ev` and has served `ids.take i`;
`P` = publications so far, `S` = completed sends, `E` = events passed to `send` so far. -/

structure Core (ids E : List Nat) (pr : Nat → Option (Nat × Nat)) (P : List (Nat × Nat)) (S : List Nat) : Prop where
  act : ∀ t ev i, pr t = some (ev, i) →
          ev ∈ E ∧ ev ∉ S ∧ i ≤ ids.length ∧ pubsOf P ev = ids.take i ∧ ∀ u j, pr u = some (ev, j) → u = t
  fin : ∀ ev, ev ∈ S → ev ∈ E ∧ pubsOf P ev = ids
  oth : ∀ ev, ev ∉ S → (∀ t i, pr t ≠ some (ev, i)) → pubsOf P ev = []

theorem Core.init (ids : List Nat) : Core ids [] (fun _ => none) [] [] := by
  constructor <;> simp

theorem Core.congr {ids E pr pr' P S} (h : Core ids E pr P S) (hp : ∀ t, pr' t = pr t) : Core ids E pr' P S :=
  (funext hp : pr' = pr) ▸ h

/-- a `send` that has no effect (thread busy, pool full) -/
theorem Core.noopSend {ids E pr P S} (h : Core ids E pr P S) (ev : Nat) : Core ids (E ++ [ev]) pr P S :=
  ⟨fun t e i ht => let ⟨a, b⟩ := h.act t e i ht; ⟨List.mem_append_left _ a, b⟩,
    fun e he => let ⟨a, b⟩ := h.fin e he; ⟨List.mem_append_left _ a, b⟩, h.oth⟩

theorem Core.fresh {ids E pr P S} (h : Core ids E pr P S) {ev : Nat} (he : ev ∉ E) :
    ev ∉ S ∧ (∀ t i, pr t ≠ some (ev, i)) ∧ pubsOf P ev = [] := by
  have h1 : ev ∉ S := fun hs => he (h.fin ev hs).1
  have h2 : ∀ t i, pr t ≠ some (ev, i) := fun t i ht => he (h.act t ev i ht).1
  exact ⟨h1, h2, h.oth ev h1 h2⟩

/-- One step of a thread `t` that is idle, `ev` being fresh, or is sending `ev`: afterwards it is sending `ev` (so far to
    `ids.take i`) or nothing (`ev` is complete), and the other events are where they were. -/
theorem Core.update {ids E E' pr P P' S S'} (h : Core ids E pr P S) {t ev : Nat} {p' : Option (Nat × Nat)}
    (ht : pr t = none ∧ ev ∉ E ∨ ∃ i, pr t = some (ev, i))
    (hE : ev ∈ E' ∧ ∀ e, e ∈ E → e ∈ E')
    (hoth : ∀ e, e ≠ ev → pubsOf P' e = pubsOf P e ∧ (e ∈ S' ↔ e ∈ S))
    (hev : (∃ i, p' = some (ev, i) ∧ ev ∉ S' ∧ i ≤ ids.length ∧ pubsOf P' ev = ids.take i) ∨
      (p' = none ∧ ev ∈ S' ∧ pubsOf P' ev = ids)) :
    Core ids E' (fun u => if u = t then p' else pr u) P' S' := by
  -- before the step `t`, and only `t`, may be sending `ev`, and it sends nothing else
  have own : ∀ u e j, pr u = some (e, j) → (e = ev ↔ u = t) := fun u e j hu => by
    rcases ht with ⟨ht, he⟩ | ⟨i, ht⟩
    · exact ⟨fun hee => absurd (h.act u e j hu).1 (hee ▸ he), fun hut => by rw [hut, ht] at hu; cases hu⟩
    · have ⟨_, _, _, _, uniq⟩ := h.act t ev i ht
      exact ⟨fun hee => uniq u j (hee ▸ hu), fun hut => by rw [hut, ht] at hu; cases hu; rfl⟩
  have hp' : ∀ e j, p' = some (e, j) → e = ev := fun e j hp => by
    rcases hev with ⟨i, hi, _⟩ | ⟨hn, _⟩
    · rw [hi] at hp; cases hp; rfl
    · rw [hn] at hp; cases hp
  -- after the step `ev` is sent by `t` alone, with progress `p'`, and any other event by whoever sent it before
  have mine : ∀ u j, (if u = t then p' else pr u) = some (ev, j) → u = t ∧ p' = some (ev, j) := fun u j hu => by
    by_cases hut : u = t
    · exact ⟨hut, (if_pos hut).symm.trans hu⟩
    · exact absurd ((own u ev j ((if_neg hut).symm.trans hu)).1 rfl) hut
  have other : ∀ u e j, e ≠ ev → ((if u = t then p' else pr u) = some (e, j) ↔ pr u = some (e, j)) := fun u e j hee => by
    by_cases hut : u = t
    · rw [if_pos hut]
      exact ⟨fun hp => absurd (hp' e j hp) hee, fun hu => absurd ((own u e j hu).2 hut) hee⟩
    · rw [if_neg hut]
  refine ⟨fun u e j hu => ?_, fun e he => ?_, fun e he hn => ?_⟩ <;> by_cases hee : e = ev
  · subst hee
    obtain ⟨hut, hpj⟩ := mine u j hu
    rcases hev with ⟨i, hi, h1, h2, h3⟩ | ⟨hn, _⟩
    · obtain rfl : i = j := by rw [hi] at hpj; cases hpj; rfl
      exact ⟨hE.1, h1, h2, h3, fun w k hw => (mine w k hw).1.trans hut.symm⟩
    · rw [hn] at hpj; cases hpj
  · obtain ⟨a1, a2, a3, a4, a5⟩ := h.act u e j ((other u e j hee).1 hu)
    exact ⟨hE.2 e a1, mt (hoth e hee).2.1 a2, a3, (hoth e hee).1.trans a4, fun w k hw => a5 w k ((other w e k hee).1 hw)⟩
  · subst hee
    rcases hev with ⟨_, _, h1, _⟩ | ⟨_, _, h3⟩
    · exact absurd he h1
    · exact ⟨hE.1, h3⟩
  · obtain ⟨f1, f2⟩ := h.fin e ((hoth e hee).2.1 he)
    exact ⟨hE.2 e f1, (hoth e hee).1.trans f2⟩
  · subst hee
    rcases hev with ⟨i, hi, _⟩ | ⟨_, h2, _⟩
    · exact absurd ((if_pos rfl).trans hi) (hn t i)
    · exact absurd h2 he
  · rw [(hoth e hee).1]
    exact h.oth e (mt (hoth e hee).2.2 he) fun u j hu => hn u j ((other u e j hee).2 hu)

theorem pubsOf_snoc_ne (P : List (Nat × Nat)) {e ev : Nat} (l : Nat) (he : e ≠ ev) :
    pubsOf (P ++ [(ev, l)]) e = pubsOf P e := by
  rw [pubsOf_append, pubsOf_single, if_neg (Ne.symm he), List.append_nil]

theorem pubsOf_snoc_take {P : List (Nat × Nat)} {ids : List Nat} {ev i : Nat} (h : pubsOf P ev = ids.take i)
    (hi : i < ids.length) : pubsOf (P ++ [(ev, ids[i])]) ev = ids.take (i + 1) := by
  rw [pubsOf_append, h, pubsOf_single, if_pos rfl, List.take_append_getElem hi]

theorem Core.finish {ids E pr P S} (h : Core ids E pr P S) {t ev : Nat} (ht : pr t = some (ev, ids.length)) :
    Core ids E (fun u => if u = t then none else pr u) P (S ++ [ev]) :=
  have ⟨a1, _, _, a4, _⟩ := h.act t ev _ ht
  h.update (.inr ⟨_, ht⟩) ⟨a1, fun _ => id⟩ (fun e he => ⟨rfl, by simp [he]⟩)
    (.inr ⟨rfl, by simp, a4.trans (List.take_length ..)⟩)

theorem Core.pubsOf_eq_take {ids E pr P S} (h : Core ids E pr P S) (ev : Nat) :
    ∃ i, i ≤ ids.length ∧ pubsOf P ev = ids.take i := by
  by_cases hs : ev ∈ S
  · exact ⟨ids.length, Nat.le_refl _, by rw [(h.fin ev hs).2, List.take_length]⟩
  · by_cases ha : ∃ t i, pr t = some (ev, i)
    · obtain ⟨t, i, ht⟩ := ha
      obtain ⟨_, _, h3, h4, _⟩ := h.act t ev i ht
      exact ⟨i, h3, h4⟩
    · exact ⟨0, Nat.zero_le _, by
        rw [h.oth ev hs (fun t i ht => ha ⟨t, i, ht⟩)]; rfl⟩

theorem Core.mem_E {ids E pr P S} (h : Core ids E pr P S) {x : Nat × Nat} (hx : x ∈ P) : x.1 ∈ E :=
  Decidable.byContradiction fun he => not_mem_of_pubsOf_nil (h.fresh he).2.2 x.2 hx

/-! ## the concrete invariant -/

def FanAct : Act → Prop
  | .create _ | .drop _ _ => False
  | _ => True

instance : DecidablePred FanAct := fun a => by cases a <;> simp only [FanAct] <;> infer_instance

def sendOf : Act → List Nat
  | .send _ ev => [ev]
  | _ => []

def relOf : Act → List Nat
  | .release ev => [ev]
  | _ => []

def sendEvs (as : List Act) : List Nat := as.flatMap sendOf
def relEvs (as : List Act) : List Nat := as.flatMap relOf

/-- progress of a sending thread: `(ev, number of listeners served)` -/
def prog : Loc → Option (Nat × Nat)
  | .fArc ev i _ => some (ev, i)
  | .fCount ev => some (ev, 0)
  | .fOgre ev i _ => some (ev, i)
  | _ => none

/-- what is known about a thread at location `l`: it is not inside `create`/`drop`/`sync`; a walker of the `arc`
    flavour holds the entry it read; a walker of the `ogre_arc` flavour holds the right count, and the reference counter
    of its event accounts for the producer's own handle, the `|L|` copies, and the releases so far.
    `fArc` records `s₀.flavor = .arc` because `FanInv.refsS` owes nothing for that flavour: a send that completes
    from `fArc` discharges it by contradiction. -/
def LocOK (s₀ : St) (Ev : List Nat) (refs : Nat → Nat) (R : List Nat) : Loc → Prop
  | .idle | .done _ | .pPoll _ => True
  | .fArc _ i id => id = s₀.used.getD i s₀.MAX ∧ s₀.flavor = .arc
  | .fCount ev => ev ∈ Ev → refs ev = 1
  | .fOgre ev i cnt => cnt = (usedIds s₀.MAX s₀.vacant).length ∧ i < cnt ∧
      (ev ∈ Ev → refs ev + R.count ev = 1 + (usedIds s₀.MAX s₀.vacant).length)
  | _ => False

/-- the thread is not inside `create`, `drop` or `sync`: `LocOK` without what it says of the registers -/
def FanLoc : Loc → Prop
  | .idle | .done _ | .fArc _ _ _ | .fCount _ | .fOgre _ _ _ | .pPoll _ => True
  | _ => False

theorem WF.fanLoc {s : St} (h : WF s) (u : Nat) : FanLoc (s.thr u) := by rw [h.idle u]; trivial

theorem LocOK.fanLoc {s₀ : St} {Ev R : List Nat} {refs : Nat → Nat} {l : Loc} (h : LocOK s₀ Ev refs R l) :
    FanLoc l := by
  cases l <;> first | trivial | exact h

theorem LocOK.congr {s₀ : St} {Ev R : List Nat} {refs refs' : Nat → Nat} {l : Loc} (h : LocOK s₀ Ev refs R l)
    (hc : ∀ ev i, prog l = some (ev, i) → refs' ev = refs ev) : LocOK s₀ Ev refs' R l := by
  cases l <;> simp only [LocOK] at h ⊢
  case fArc => exact h
  case fCount ev => rw [hc ev 0 rfl]; exact h
  case fOgre ev i cnt => rw [hc ev i rfl]; exact h

/-- The invariant of a fan-out execution from `s₀`, indexed by what the execution has done so far:
* `s₀` — the quiescent state it started from (`WF`), `s` — the state now;
* `Ev` — the events whose reference counter is accounted for.  They must be new (in no queue of `s₀`: `hq0` of
  `FanInv.release`, `fanInv_step`) and released only after delivery (`RelOK`); `[]` where the counter is not spoken of
  (`fanInv_run_wf_nil`), `sendEvs as` in `c03_refs`;
* `E` — the events passed to `.send` so far (`sendEvs` of the actions done), `R` — the events of the `.release`
  actions so far (`relEvs`);
* `P`, `S`, `D` — what was appended to the ghost logs `pubs`, `sent`, `delivered` of `s₀`.

`lok`: every thread is at a fan-out location and knows what `LocOK` says; `relLe`: an event of `Ev` was released at
most as often as it was delivered; `refsS` (ogre_arc): once the send of `ev ∈ Ev` is complete, `refs ev` plus the
releases of `ev` is the number of listeners. -/
structure FanInv (s₀ : St) (Ev E R : List Nat) (P : List (Nat × Nat)) (S : List Nat) (D : List (Nat × Nat × Nat))
    (s : St) : Prop where
  frame  : frameOf s = frameOf s₀
  lok    : ∀ t, LocOK s₀ Ev s.refs R (s.thr t)
  pubsEq : s.pubs = s₀.pubs ++ P
  sentEq : s.sent = s₀.sent ++ S
  dlvEq  : s.delivered = s₀.delivered ++ D
  core   : Core (usedIds s₀.MAX s₀.vacant) E (fun t => prog (s.thr t)) P S
  /-- per listener: delivered ++ still queued = initially queued ++ published, in order -/
  order  : ∀ l, dlvOf D l ++ s.queues l = s₀.queues l ++ pubsTo P l
  relLe  : ∀ ev, ev ∈ Ev → R.count ev ≤ dcount D ev
  refsS  : s.flavor = .ogreArc → ∀ ev, ev ∈ S → ev ∈ Ev →
             s.refs ev + R.count ev = (usedIds s₀.MAX s₀.vacant).length

theorem fanInv_init {s₀ : St} (h : WF s₀) (Ev : List Nat) : FanInv s₀ Ev [] [] [] [] [] s₀ :=
  { frame := rfl, lok := fun t => by rw [h.idle t]; trivial, pubsEq := by simp, sentEq := by simp, dlvEq := by simp,
    core := (Core.init _).congr fun t => by rw [h.idle t]; rfl, order := by simp, relLe := by simp, refsS := by simp }

/-- the delivery log as `(event, listener)` pairs, the shape of `pubs` -/
def dlvPairs (D : List (Nat × Nat × Nat)) : List (Nat × Nat) := D.map (fun x => (x.2.2, x.1))

theorem dlvOf_eq (D : List (Nat × Nat × Nat)) (l : Nat) : dlvOf D l = pubsTo (dlvPairs D) l := by
  simp [dlvOf, pubsTo, dlvPairs, List.filter_map, Function.comp_def]

theorem dcount_eq (D : List (Nat × Nat × Nat)) (ev : Nat) : dcount D ev = (pubsOf (dlvPairs D) ev).length := by
  simp [dcount, pubsOf, dlvPairs, List.filter_map, Function.comp_def, List.countP_eq_length_filter]

theorem dcount_le_pubs {q₀ q : Nat → List Nat} {D : List (Nat × Nat × Nat)} {P : List (Nat × Nat)} {ev : Nat}
    (ho : ∀ l, dlvOf D l ++ q l = q₀ l ++ pubsTo P l) (hq : ∀ l, ev ∉ q₀ l) :
    dcount D ev ≤ (pubsOf P ev).length := by
  rw [dcount_eq]
  refine length_le_of_count_le _ _ (fun l => ?_)
  have := congrArg (List.count ev) (ho l)
  rw [dlvOf_eq, List.count_append, List.count_append, List.count_eq_zero_of_not_mem (hq l), ← count_pair_pubsTo,
    ← count_pair_pubsTo] at this
  rw [← count_pair_pubsOf, ← count_pair_pubsOf]
  omega

section order
variable {q₀ q : Nat → List Nat} {D : List (Nat × Nat × Nat)} {P : List (Nat × Nat)}

theorem order_pub (ho : ∀ l, dlvOf D l ++ q l = q₀ l ++ pubsTo P l) (ev id l : Nat) :
    dlvOf D l ++ (if l = id then q l ++ [ev] else q l) = q₀ l ++ pubsTo (P ++ [(ev, id)]) l := by
  rw [pubsTo_append, pubsTo_single, ← List.append_assoc, ← ho l]
  by_cases hl : l = id
  · simp [hl]
  · simp [hl, Ne.symm hl]

theorem order_dlv (ho : ∀ l, dlvOf D l ++ q l = q₀ l ++ pubsTo P l) {id ev : Nat} {rest : List Nat}
    (hq : q id = ev :: rest) (k l : Nat) :
    dlvOf (D ++ [(id, k, ev)]) l ++ (if l = id then rest else q l) = q₀ l ++ pubsTo P l := by
  rw [dlvOf_append, ← ho l]
  by_cases hl : l = id
  · subst hl; simp [dlvOf, hq]
  · simp [dlvOf, hl, Ne.symm hl]

end order

section fan
variable {s₀ : St} {Ev E R : List Nat} {P : List (Nat × Nat)} {S : List Nat} {D : List (Nat × Nat × Nat)} {s s' : St}

theorem FanInv.rel_le_pubs (h : FanInv s₀ Ev E R P S D s) (hq0 : ∀ e, e ∈ Ev → ∀ l, e ∉ s₀.queues l) {ev : Nat}
    (hE : ev ∈ Ev) :
    R.count ev ≤ dcount D ev ∧ dcount D ev ≤ (pubsOf P ev).length ∧
      (pubsOf P ev).length ≤ (usedIds s₀.MAX s₀.vacant).length := by
  obtain ⟨i, _, hi⟩ := h.core.pubsOf_eq_take ev
  exact ⟨h.relLe ev hE, dcount_le_pubs h.order (hq0 ev hE), by rw [hi, List.length_take]; omega⟩

/-- no copy of `ev` is out yet, so none was delivered (nor, by `relLe`, given back) -/
theorem FanInv.unserved (h : FanInv s₀ Ev E R P S D s) {t ev : Nat} (hpt : prog (s.thr t) = some (ev, 0))
    (hq : ∀ l, ev ∉ s₀.queues l) : dcount D ev = 0 := by
  have ⟨_, _, _, served, _⟩ := h.core.act t ev 0 hpt
  have := dcount_le_pubs h.order hq
  rwa [served, List.take_zero, List.length_nil, Nat.le_zero] at this

theorem FanInv.count_done (h : FanInv s₀ Ev E R P S D s) (hw : WF s₀) {ev : Nat} (he : ev ∈ S) (l : Nat) :
    P.count (ev, l) = if l ∈ s₀.live then 1 else 0 := by
  rw [count_pair_pubsOf, (h.core.fin ev he).2, (usedIds_nodup _ _).count]
  simp only [hw.mem_usedIds_iff]

theorem FanInv.count_le_one (h : FanInv s₀ Ev E R P S D s) (ev l : Nat) : P.count (ev, l) ≤ 1 := by
  obtain ⟨i, _, hi⟩ := h.core.pubsOf_eq_take ev
  rw [count_pair_pubsOf, hi]
  have h1 := (List.take_sublist i (usedIds s₀.MAX s₀.vacant)).count_le l
  have h2 := (usedIds_nodup s₀.MAX s₀.vacant).count (a := l)
  split at h2 <;> omega

theorem FanInv.not_mem_of_not_live (h : FanInv s₀ Ev E R P S D s) (hw : WF s₀) {ev l : Nat} (hl : l ∉ s₀.live) :
    (ev, l) ∉ P := by
  intro hm
  obtain ⟨i, _, hi⟩ := h.core.pubsOf_eq_take ev
  have := mem_pubsOf.2 hm
  rw [hi] at this
  exact hl (hw.mem_usedIds_iff.1 (List.mem_of_mem_take this))

/-! ### transitions preserving `FanInv`

`move`, `finish`, `deliver`, `release` describe the new state `s'` by what it does to the fields the invariant talks
about; `relabel`, `start`, `advance`, `complete`, `advanceFinish` name it (`setThr … t l'` over `s` or `publish s ev id`,
with new `refs` where the flavours differ). -/

theorem FanInv.solo (h : FanInv s₀ Ev E R P S D s) {t e i : Nat} (ht : prog (s.thr t) = some (e, i)) :
    (∀ u j, u ≠ t → prog (s.thr u) ≠ some (e, j)) ∧ e ∉ S :=
  have ⟨_, hS, _, _, uniq⟩ := h.core.act t e i ht
  ⟨fun u j hu hj => hu (uniq u j hj), hS⟩

/-- the frame of every step of a sending thread: `refs` changes only at an event that nobody else is sending and whose
    send is not complete (`hr`).  `hf`, `hd` default to `rfl` (for `s' = setThr { s with … } t l'`), `hrs` to "no send
    completes" -/
theorem FanInv.move (h : FanInv s₀ Ev E R P S D s) {t : Nat} {l' : Loc} {E' S' : List Nat} {P' : List (Nat × Nat)}
    (ht : s'.thr = fun u => if u = t then l' else s.thr u)
    (hp : s'.pubs = s₀.pubs ++ P') (hs : s'.sent = s₀.sent ++ S')
    (hc : Core (usedIds s₀.MAX s₀.vacant) E' (fun u => if u = t then prog l' else prog (s.thr u)) P' S')
    (ho : ∀ l, dlvOf D l ++ s'.queues l = s₀.queues l ++ pubsTo P' l)
    (hr : ∀ e, s'.refs e = s.refs e ∨ ((∀ u j, u ≠ t → prog (s.thr u) ≠ some (e, j)) ∧ e ∉ S))
    (hl : LocOK s₀ Ev s'.refs R l')
    (hf : frameOf s' = frameOf s := by rfl) (hd : s'.delivered = s.delivered := by rfl)
    (hrs : s.flavor = .ogreArc → ∀ ev, ev ∈ S' → ev ∉ S → ev ∈ Ev →
      s'.refs ev + R.count ev = (usedIds s₀.MAX s₀.vacant).length := by exact fun _ _ h1 h2 => absurd h1 h2) :
    FanInv s₀ Ev E' R P' S' D s' := by
  refine { frame := hf.trans h.frame, lok := fun u => ?_, pubsEq := hp, sentEq := hs, dlvEq := hd ▸ h.dlvEq,
           core := hc.congr fun u => by rw [ht]; dsimp only; split <;> rfl, order := ho, relLe := h.relLe,
           refsS := fun hfl e he hE => ?_ }
  · rw [ht]
    dsimp only
    split
    · exact hl
    · next hut => exact (h.lok u).congr fun e i he => (hr e).elim id fun hs => absurd he (hs.1 u i hut)
  · have hfl' : s.flavor = .ogreArc := (frame_of_eq hf).flavor ▸ hfl
    by_cases heS : e ∈ S
    · rw [(hr e).elim id fun hs => absurd heS hs.2]; exact h.refsS hfl' e heS hE
    · exact hrs hfl' e he heS hE

theorem FanInv.refs_at {t ev : Nat} (hsolo : (∀ u j, u ≠ t → prog (s.thr u) ≠ some (ev, j)) ∧ ev ∉ S)
    (hr : ∀ e, e ≠ ev → s'.refs e = s.refs e) (e : Nat) :
    s'.refs e = s.refs e ∨ ((∀ u j, u ≠ t → prog (s.thr u) ≠ some (e, j)) ∧ e ∉ S) :=
  (Decidable.em (e = ev)).elim (fun he => .inr (he ▸ hsolo)) fun he => .inl (hr e he)

theorem FanInv.relabel (h : FanInv s₀ Ev E R P S D s) {t : Nat} {l' : Loc} {r' : Nat → Nat}
    (hpr : prog l' = prog (s.thr t))
    (hr : ∀ e, (∀ i, prog (s.thr t) ≠ some (e, i)) → r' e = s.refs e)
    (hl : LocOK s₀ Ev r' R l') : FanInv s₀ Ev E R P S D (setThr { s with refs := r' } t l') :=
  h.move rfl h.pubsEq h.sentEq
    (h.core.congr fun u => by
      split
      · next hu => rw [hpr, hu]
      · rfl) h.order
    (fun e => (Classical.em (∃ i, prog (s.thr t) = some (e, i))).elim (fun ⟨_, hi⟩ => .inr (h.solo hi))
      fun hn => .inl (hr e fun i hi => hn ⟨i, hi⟩)) hl

theorem FanInv.noopSend (h : FanInv s₀ Ev E R P S D s) (ev : Nat) :
    FanInv s₀ Ev (E ++ [ev]) R P S D s :=
  { h with core := h.core.noopSend ev }

theorem FanInv.start (h : FanInv s₀ Ev E R P S D s) {t ev : Nat} {l' : Loc} {r' : Nat → Nat} {st' : List Nat}
    (hfr : ev ∉ E) (hpt : prog (s.thr t) = none) (hpr : prog l' = some (ev, 0))
    (hr : ∀ e, e ≠ ev → r' e = s.refs e) (hl : LocOK s₀ Ev r' R l') :
    FanInv s₀ Ev (E ++ [ev]) R P S D (setThr { s with refs := r', started := st' } t l') :=
  have f := h.core.fresh hfr
  h.move rfl h.pubsEq h.sentEq
    (h.core.update (.inl ⟨hpt, hfr⟩) ⟨by simp, fun _ => List.mem_append_left _⟩ (fun _ _ => ⟨rfl, Iff.rfl⟩)
      (.inl ⟨0, hpr, f.1, Nat.zero_le _, f.2.2⟩)) h.order
    (FanInv.refs_at ⟨fun u j _ => f.2.1 u j, f.1⟩ hr) hl

theorem FanInv.advance (h : FanInv s₀ Ev E R P S D s) {t ev i : Nat} {l' : Loc}
    (hpt : prog (s.thr t) = some (ev, i)) (hi : i < (usedIds s₀.MAX s₀.vacant).length)
    (hpr : prog l' = some (ev, i + 1)) (hl : LocOK s₀ Ev s.refs R l') :
    FanInv s₀ Ev E R (P ++ [(ev, (usedIds s₀.MAX s₀.vacant)[i])]) S D
      (setThr (publish s ev (usedIds s₀.MAX s₀.vacant)[i]) t l') :=
  have ⟨a1, a2, _, a4, _⟩ := h.core.act t ev i hpt
  h.move rfl (by show s.pubs ++ _ = _; rw [h.pubsEq, List.append_assoc]) h.sentEq
    (h.core.update (.inr ⟨i, hpt⟩) ⟨a1, fun _ => id⟩ (fun _ he => ⟨pubsOf_snoc_ne P _ he, Iff.rfl⟩)
      (.inl ⟨i + 1, hpr, a2, hi, pubsOf_snoc_take a4 hi⟩))
    (order_pub h.order ev _) (fun _ => .inl rfl) hl

theorem FanInv.finish (h : FanInv s₀ Ev E R P S D s) {t ev : Nat} {r : Res}
    (hf : frameOf s' = frameOf s) (ht : s'.thr = fun u => if u = t then .done r else s.thr u)
    (hp : s'.pubs = s.pubs) (hs : s'.sent = s.sent ++ [ev]) (hd : s'.delivered = s.delivered)
    (hq : s'.queues = s.queues)
    (hpt : prog (s.thr t) = some (ev, (usedIds s₀.MAX s₀.vacant).length))
    (hr : ∀ e, e ≠ ev → s'.refs e = s.refs e)
    (hrs : s.flavor = .ogreArc → ev ∈ Ev → s'.refs ev + R.count ev = (usedIds s₀.MAX s₀.vacant).length) :
    FanInv s₀ Ev E R P (S ++ [ev]) D s' :=
  h.move ht (hp ▸ h.pubsEq) (by rw [hs, h.sentEq, List.append_assoc]) (h.core.finish hpt) (hq ▸ h.order)
    (FanInv.refs_at (h.solo hpt) hr) trivial hf hd fun hfl e he hn hE => by
      obtain rfl := List.mem_singleton.1 ((List.mem_append.1 he).resolve_left hn)
      exact hrs hfl hE

/-- `finish` for the state as the model writes it -/
theorem FanInv.complete (h : FanInv s₀ Ev E R P S D s) {t ev : Nat} {r : Res} {r' : Nat → Nat}
    (hpt : prog (s.thr t) = some (ev, (usedIds s₀.MAX s₀.vacant).length))
    (hr : ∀ e, e ≠ ev → r' e = s.refs e)
    (hrs : s.flavor = .ogreArc → ev ∈ Ev → r' ev + R.count ev = (usedIds s₀.MAX s₀.vacant).length) :
    FanInv s₀ Ev E R P (S ++ [ev]) D (setThr { s with refs := r', sent := s.sent ++ [ev] } t (.done r)) :=
  h.finish rfl rfl rfl rfl rfl rfl hpt hr hrs

theorem FanInv.deliver (h : FanInv s₀ Ev E R P S D s) {id k ev : Nat} {rest : List Nat}
    (hf : frameOf s' = frameOf s) (ht : s'.thr = s.thr) (hp : s'.pubs = s.pubs) (hs : s'.sent = s.sent)
    (hd : s'.delivered = s.delivered ++ [(id, k, ev)]) (hq : s.queues id = ev :: rest)
    (hq' : s'.queues = fun j => if j = id then rest else s.queues j) (hr : s'.refs = s.refs) :
    FanInv s₀ Ev E R P S (D ++ [(id, k, ev)]) s' := by
  refine { frame := hf.trans h.frame, lok := fun u => by rw [ht, hr]; exact h.lok u, pubsEq := hp ▸ h.pubsEq,
           sentEq := hs ▸ h.sentEq, dlvEq := by rw [hd, h.dlvEq, List.append_assoc], core := by rw [ht]; exact h.core,
           order := fun l => ?_, relLe := fun e he => ?_,
           refsS := fun hfl e he hE => by rw [hr]; exact h.refsS ((frame_of_eq hf).flavor ▸ hfl) e he hE }
  · rw [hq']; exact order_dlv h.order hq k l
  · have := h.relLe e he
    rw [dcount_append]; omega

/-- a consumer releases a payload handle it received: not before the delivery (`hrel`) -/
theorem FanInv.release (h : FanInv s₀ Ev E R P S D s) {ev : Nat}
    (hq0 : ∀ e, e ∈ Ev → ∀ l, e ∉ s₀.queues l)
    (hrel : ev ∈ Ev → R.count ev < dcount D ev)
    (hf : frameOf s' = frameOf s) (ht : s'.thr = s.thr) (hp : s'.pubs = s.pubs) (hs : s'.sent = s.sent)
    (hd : s'.delivered = s.delivered) (hq : s'.queues = s.queues)
    (hr : s'.refs = fun e => if e = ev then s.refs e - 1 else s.refs e) :
    FanInv s₀ Ev E (R ++ [ev]) P S D s' := by
  have hcnt : ∀ e, (R ++ [ev]).count e = R.count e + if e = ev then 1 else 0 := fun e => by
    simp only [List.count_append, List.count_singleton, beq_iff_eq, eq_comm (a := ev)]
  -- the handle given back comes off `refs` and goes onto `R`: one was still out, fewer than `|L|` having come back
  have hsum : ∀ e n, e ∈ Ev → s.refs e + R.count e = n → (usedIds s₀.MAX s₀.vacant).length ≤ n →
      s'.refs e + (R ++ [ev]).count e = n := fun e n hE hn hle => by
    rw [hcnt, hr]
    dsimp only
    split
    · next he => subst he; have := hrel hE; have := h.rel_le_pubs hq0 hE; omega
    · exact hn
  refine { frame := hf.trans h.frame, lok := fun u => ?_, pubsEq := hp ▸ h.pubsEq, sentEq := hs ▸ h.sentEq,
           dlvEq := hd ▸ h.dlvEq, core := by rw [ht]; exact h.core, order := hq ▸ h.order, relLe := fun e he => ?_,
           refsS := fun hfl e he hE => ?_ }
  · rw [ht]
    have hu := h.lok u
    cases hl : s.thr u <;> rw [hl] at hu <;> simp only [LocOK] at hu ⊢
    case fArc => exact hu
    case fCount e =>
      intro hE
      have hne : e ≠ ev := fun hee => by
        subst hee
        have := hrel hE; have := h.unserved (t := u) (hl ▸ rfl) (hq0 e hE)
        omega
      rw [hr]; exact (if_neg hne).trans (hu hE)
    case fOgre e i cnt =>
      exact ⟨hu.1, hu.2.1, fun hE => hsum e _ hE (hu.2.2 hE) (Nat.le_add_left ..)⟩
  · rw [hcnt]
    have := h.relLe e he
    split
    · next hee => subst hee; have := hrel he; omega
    · omega
  · exact hsum e _ hE (h.refsS ((frame_of_eq hf).flavor ▸ hfl) e he hE) (Nat.le_refl _)

theorem FanInv.advanceFinish (h : FanInv s₀ Ev E R P S D s) {t ev i : Nat} {r : Res} {r' : Nat → Nat}
    (hpt : prog (s.thr t) = some (ev, i)) (hi : i < (usedIds s₀.MAX s₀.vacant).length)
    (hlast : (usedIds s₀.MAX s₀.vacant).length ≤ i + 1)
    (hr : ∀ e, e ≠ ev → r' e = s.refs e)
    (hrs : s.flavor = .ogreArc → ev ∈ Ev → r' ev + R.count ev = (usedIds s₀.MAX s₀.vacant).length) :
    FanInv s₀ Ev E R (P ++ [(ev, (usedIds s₀.MAX s₀.vacant)[i])]) (S ++ [ev]) D
      (setThr { publish s ev (usedIds s₀.MAX s₀.vacant)[i] with refs := r', sent := s.sent ++ [ev] } t (.done r)) := by
  have ⟨a1, _, _, a4, _⟩ := h.core.act t ev i hpt
  exact h.move rfl (by show s.pubs ++ _ = _; rw [h.pubsEq, List.append_assoc])
    (by show s.sent ++ _ = _; rw [h.sentEq, List.append_assoc])
    (h.core.update (.inr ⟨i, hpt⟩) ⟨a1, fun _ => id⟩ (fun e he => ⟨pubsOf_snoc_ne P _ he, by simp [he]⟩)
      (.inr ⟨rfl, by simp, (pubsOf_snoc_take a4 hi).trans (List.take_of_length_le hlast)⟩))
    (order_pub h.order ev _) (FanInv.refs_at (h.solo hpt) hr) trivial (hrs := fun hfl e he hn hE => by
      obtain rfl := List.mem_singleton.1 ((List.mem_append.1 he).resolve_left hn)
      exact hrs hfl hE)

/-! ### every action of a fan-out execution preserves `FanInv` -/

theorem getD_plan_lt {mx : Nat} {v : List Nat} {i : Nat} (hi : i < (usedIds mx v).length) :
    (syncPlan mx v).getD i mx = (usedIds mx v)[i] := by
  simp [syncPlan_eq, List.getD_eq_getElem?_getD, List.getElem?_append_left hi, List.getElem?_eq_getElem hi]

theorem getD_plan_ge {mx : Nat} {v : List Nat} {i : Nat} (hi : (usedIds mx v).length ≤ i) :
    (syncPlan mx v).getD i mx = mx := by
  simp only [syncPlan_eq, List.getD_eq_getElem?_getD, List.getElem?_append_right hi, List.getElem?_replicate]
  split <;> rfl

theorem usedIds_getElem_ne {mx : Nat} {v : List Nat} {i : Nat} (hi : i < (usedIds mx v).length) :
    (usedIds mx v)[i] ≠ mx := usedIds_ne_max _ (List.getElem_mem hi)

def FanNext (s₀ : St) (Ev E R : List Nat) (P : List (Nat × Nat)) (S : List Nat) (D : List (Nat × Nat × Nat))
    (s' : St) : Prop :=
  ∃ P' S' D', P <+: P' ∧ S <+: S' ∧ D <+: D' ∧ FanInv s₀ Ev E R P' S' D' s'

/-- each of `hP`, `hS`, `hD` defaults to "this log did not grow"; a call names the logs the action appends to -/
theorem FanNext.of {s' : St} {P' : List (Nat × Nat)} {S' : List Nat} {D' : List (Nat × Nat × Nat)}
    (h : FanInv s₀ Ev E R P' S' D' s') (hP : P <+: P' := by exact List.prefix_rfl)
    (hS : S <+: S' := by exact List.prefix_rfl) (hD : D <+: D' := by exact List.prefix_rfl) :
    FanNext s₀ Ev E R P S D s' :=
  ⟨P', S', D', hP, hS, hD, h⟩

theorem fanInv_step (h : FanInv s₀ Ev E R P S D s) (hw : WF s₀) (hq0 : ∀ e, e ∈ Ev → ∀ l, e ∉ s₀.queues l) (t : Nat) :
    FanNext s₀ Ev E R P S D (step s t) := by
  have fr := frame_of_eq h.frame
  have hC : s.count = (usedIds s₀.MAX s₀.vacant).length := by
    rw [fr.count, hw.countEq, hw.usedIds_length]
  have hlok := h.lok t
  cases hl : s.thr t <;> rw [hl] at hlok <;> simp only [LocOK] at hlok
  case idle => rw [step_idle hl]; exact .of h
  case done r => rw [step_done hl]; exact .of h
  case fArc ev i id =>
    obtain ⟨hid, hfl⟩ := hlok
    rw [hw.usedEq] at hid
    have hpt : prog (s.thr t) = some (ev, i) := hl ▸ rfl
    have harc : s.flavor = .arc := fr.flavor.trans hfl
    rw [step_of_at hl step_at_fArc]
    split
    · -- the sentinel: everybody has been served
      next him =>
      have ⟨_, _, hile, _⟩ := h.core.act t ev i hpt
      have hil : i = (usedIds s₀.MAX s₀.vacant).length :=
        Nat.le_antisymm hile (Nat.le_of_not_lt fun hlt =>
          usedIds_getElem_ne hlt ((getD_plan_lt hlt).symm.trans (hid.symm.trans (him.trans fr.MAX))))
      exact .of (h.complete (hil ▸ hpt) (fun _ _ => rfl) fun ho => nomatch harc.symm.trans ho) (hS := List.prefix_append ..)
    · next him =>
      have hlt : i < (usedIds s₀.MAX s₀.vacant).length :=
        Nat.lt_of_not_le fun hge => him ((hid.trans (getD_plan_ge hge)).trans fr.MAX.symm)
      rw [getD_plan_lt hlt] at hid
      subst hid
      split
      · exact .of (h.advance hpt hlt rfl ⟨by rw [fr.used, fr.MAX], hfl⟩) (hP := List.prefix_append ..)
      · have hle := usedIds_length_le s₀.MAX s₀.vacant
        have := fr.MAX
        exact .of (hP := List.prefix_append ..) (hS := List.prefix_append ..) <|
          h.advanceFinish hpt hlt (by omega) (fun _ _ => rfl) fun ho => nomatch harc.symm.trans ho
  case fCount ev =>
    have hpt : prog (s.thr t) = some (ev, 0) := hl ▸ rfl
    have hR0 : ev ∈ Ev → R.count ev = 0 := fun hE =>
      Nat.le_zero.1 (h.unserved hpt (hq0 ev hE) ▸ h.relLe ev hE)
    rw [step_of_at hl step_at_fCount]
    split
    · next h0 =>
      -- no listener: `refs ev = 1` (the producer's handle) `+ count - 1 = 0 = |L|`
      exact .of (hS := List.prefix_append ..) <|
        h.complete (by rw [hpt, ← hC, h0]) (fun e he => if_neg he) fun _ hE => by
          have := hR0 hE; have := hlok hE
          simp only [if_pos]; omega
    · next h0 =>
      -- `count = |L|` references are added to the producer's one before the first copy goes out
      refine .of (h.relabel hpt.symm (fun e he => ?_) ?_)
      · exact if_neg (fun hh : e = ev => he 0 (hh ▸ hpt))
      · exact ⟨hC, by omega, fun hE => by have := hR0 hE; have := hlok hE; simp only [if_pos]; omega⟩
  case fOgre ev i cnt =>
    obtain ⟨hcnt, hic, hrf⟩ := hlok
    subst hcnt
    have hpt : prog (s.thr t) = some (ev, i) := hl ▸ rfl
    have hg : s.used.getD i s.MAX = (usedIds s₀.MAX s₀.vacant)[i] := by
      rw [fr.used, hw.usedEq, fr.MAX, getD_plan_lt hic]
    have hne : (usedIds s₀.MAX s₀.vacant)[i] ≠ s.MAX := by rw [fr.MAX]; exact usedIds_getElem_ne hic
    rw [step_of_at hl (step_at_fOgre (s1 := publish s ev (usedIds s₀.MAX s₀.vacant)[i]) (by rw [hg, if_neg hne]))]
    split
    · next hi1 => exact .of (h.advance hpt hic rfl ⟨rfl, hi1, hrf⟩) (hP := List.prefix_append ..)
    · -- the last copy is out and the producer's handle is dropped: `1 + |L|` becomes `|L|`; the counter is not 0
      -- before, since at most `|L|` handles were given back (`rel_le_pubs`)
      exact .of (hP := List.prefix_append ..) (hS := List.prefix_append ..) <|
        h.advanceFinish hpt hic (by omega) (fun e he => if_neg he) fun _ hE => by
          have := h.rel_le_pubs hq0 hE; have := hrf hE
          simp only [if_pos]; omega
  case pPoll id =>
    have h1 : ∀ r, FanInv s₀ Ev E R P S D (setThr s t (.done r)) := fun r =>
      h.relabel (by rw [hl]; rfl) (fun _ _ => rfl) trivial
    cases hq : s.queues id with
    | nil => rw [step_of_at hl (step_at_pPoll_nil hq)]; exact .of (h1 _)
    | cons ev rest =>
      rw [step_of_at hl (step_at_pPoll hq)]
      exact .of (hD := List.prefix_append ..) <|
        (h1 _).deliver (hq := hq) (hf := rfl) (ht := rfl) (hp := rfl) (hs := rfl) (hd := rfl) (hq' := rfl) (hr := rfl)

theorem fanInv_apply (h : FanInv s₀ Ev E R P S D s) (hw : WF s₀) (hq0 : ∀ e, e ∈ Ev → ∀ l, e ∉ s₀.queues l)
    (a : Act) (ha : FanAct a) (hsend : ∀ ev, ev ∈ sendOf a → ev ∉ E)
    (hrel : ∀ ev, ev ∈ relOf a → ev ∈ Ev → R.count ev < dcount D ev) :
    FanNext s₀ Ev (E ++ sendOf a) (R ++ relOf a) P S D (apply s a) := by
  have fr := frame_of_eq h.frame
  cases a <;> simp only [sendOf, relOf, List.append_nil]
  case create | drop => exact ha.elim
  case send t ev =>
    have hfr := hsend ev (by simp [sendOf])
    by_cases hi : s.thr t = .idle
    · have hpt : prog (s.thr t) = none := hi ▸ rfl
      rcases flavor_cases s with hf | hf
      · by_cases hm : s.MAX = 0
        · -- nobody to serve: as if through `fArc`, start and completion at once
          rw [apply_send_arc0 hi hf hm, ← setThr_setThr _ t (.fArc ev 0 (s₀.used.getD 0 s₀.MAX))]
          have h1 := h.start (l' := .fArc ev 0 (s₀.used.getD 0 s₀.MAX)) (r' := s.refs) (st' := s.started) hfr hpt rfl
            (fun _ _ => rfl) ⟨rfl, fr.flavor ▸ hf⟩
          exact .of (hS := List.prefix_append ..) <|
            h1.complete (r' := s.refs) (by rw [thr_setThr_self, ← fr.MAX, hm, usedIds_zero]; rfl) (fun _ _ => rfl)
              fun ho => nomatch hf.symm.trans ho
        · rw [apply_send_arc hi hf hm]
          exact .of (h.start hfr hpt rfl (fun _ _ => rfl) ⟨by rw [fr.used, fr.MAX], fr.flavor ▸ hf⟩)
      · by_cases hacc : (s.started.filter (fun e => s.refs e > 0)).length < s.N
        · rw [apply_send_ogre hi hf hacc]
          exact .of (h.start hfr hpt rfl (fun e he => if_neg he) fun _ => if_pos rfl)
        · rw [apply_send_full hi hf hacc]
          exact .of ((h.relabel (l' := .done .full) hpt.symm (fun _ _ => rfl) trivial).noopSend ev)
    · rw [show apply s (.send t ev) = s by simp only [apply, if_neg hi]]
      exact .of (h.noopSend ev)
  case poll t id | ack t =>
    simp only [apply]
    split
    · next hl => exact .of (h.relabel (by rw [hl]; rfl) (fun _ _ => rfl) trivial)
    · exact .of h
  case release ev =>
    exact .of <| h.release hq0 (hrel ev (by simp [relOf])) (hf := rfl) (ht := rfl) (hp := rfl) (hs := rfl) (hd := rfl)
      (hq := rfl) (hr := rfl)
  case cancel id =>
    exact .of { h with }
  case step t => exact fanInv_step h hw hq0 t

end fan

/-! ## `FanEff`: what one action does, whatever the state and the events -/

def cancelOf : Act → List Nat
  | .cancel id => [id]
  | _ => []

def cancelIds (as : List Act) : List Nat := as.flatMap cancelOf

def thrOf : Act → List Nat
  | .create t | .drop t _ | .send t _ | .poll t _ | .step t | .ack t => [t]
  | .release _ | .cancel _ => []

/-- what one action does to `pubs`, `queues`, `delivered`: nothing, one publication, or one delivery -/
inductive Effect (s s' : St) : Prop where
  | silent (hp : s'.pubs = s.pubs) (hq : s'.queues = s.queues) (hd : s'.delivered = s.delivered)
  | pub (ev id : Nat) (hp : s'.pubs = s.pubs ++ [(ev, id)])
      (hq : s'.queues = fun j => if j = id then s.queues j ++ [ev] else s.queues j) (hd : s'.delivered = s.delivered)
  | take (id k ev : Nat) (rest : List Nat) (hhd : s.queues id = ev :: rest) (hp : s'.pubs = s.pubs)
      (hq : s'.queues = fun j => if j = id then rest else s.queues j)
      (hd : s'.delivered = s.delivered ++ [(id, k, ev)])

/-- `sending`: a thread found inside a send of `e` was inside it before, or the action is its `.send … e`; `sent` grows
    by at most one event, which was being sent or is the one of the `.send` -/
structure FanEff (s s' : St) (a : Act) : Prop where
  frame   : frameOf s' = frameOf s
  keep    : ∀ j, s'.keep j = if j ∈ cancelOf a then false else s.keep j
  loc     : ∀ u, FanLoc (s'.thr u)
  thr     : ∀ u, u ∉ thrOf a → s'.thr u = s.thr u
  effect  : Effect s s'
  sending : ∀ t e i, prog (s'.thr t) = some (e, i) → (∃ j, prog (s.thr t) = some (e, j)) ∨ a = .send t e
  sent    : s'.sent = s.sent ∨
              ∃ e, s'.sent = s.sent ++ [e] ∧ ((∃ t j, prog (s.thr t) = some (e, j)) ∨ ∃ u, a = .send u e)

/-- `s` with other logs and counters: what a fan-out action may change, the acting thread's location aside -/
abbrev relog (s : St) (q' : Nat → List Nat) (p' : List (Nat × Nat)) (d' : List (Nat × Nat × Nat)) (r' : Nat → Nat)
    (se' st' : List Nat) : St :=
  { s with queues := q', pubs := p', delivered := d', refs := r', sent := se', started := st' }

namespace FanEff
variable {s : St} {a : Act} {t : Nat} {l' : Loc} {q' : Nat → List Nat} {p' : List (Nat × Nat)}
  {d' : List (Nat × Nat × Nat)} {r' : Nat → Nat} {se' st' : List Nat}

/-- no thread moves, nothing is logged: only `refs` (`.release`) and `keep` (`.cancel`) may change -/
theorem still {k' : Nat → Bool} (hl : ∀ u, FanLoc (s.thr u))
    (hk : ∀ j, k' j = if j ∈ cancelOf a then false else s.keep j) : FanEff s { s with refs := r', keep := k' } a :=
  { frame := rfl, keep := hk, loc := hl, thr := fun _ _ => rfl, effect := .silent rfl rfl rfl,
    sending := fun _ _ i h => .inl ⟨i, h⟩, sent := .inl rfl }

theorem refl (hl : ∀ u, FanLoc (s.thr u)) (hc : cancelOf a = []) : FanEff s s a :=
  still (r' := s.refs) hl fun j => by simp [hc]

/-- the shape of every other case: `t` moves to `l'`, and the logs and counters may change; `quiet` (to a location outside
    a send), `cont` (going on with its event) and `finish` (completing its send) are the three uses -/
theorem of_relog (hl : ∀ u, FanLoc (s.thr u)) (ha : thrOf a = [t]) (hl' : FanLoc l')
    (effect : Effect s (setThr (relog s q' p' d' r' se' st') t l'))
    (sending : ∀ e i, prog l' = some (e, i) → (∃ j, prog (s.thr t) = some (e, j)) ∨ a = .send t e)
    (sent : se' = s.sent ∨ ∃ e, se' = s.sent ++ [e] ∧ ((∃ j, prog (s.thr t) = some (e, j)) ∨ a = .send t e)) :
    FanEff s (setThr (relog s q' p' d' r' se' st') t l') a := by
  have hc : cancelOf a = [] := by cases a <;> first | rfl | cases ha
  refine { frame := rfl, keep := fun j => by simp [hc], loc := fun u => ?_, thr := fun u hu => ?_, effect,
           sending := fun u e i h => ?_,
           sent := sent.imp id fun ⟨e, h1, h2⟩ => ⟨e, h1, h2.imp (fun ⟨j, hj⟩ => ⟨t, j, hj⟩) fun h => ⟨t, h⟩⟩ }
  · rw [thr_setThr]
    split
    · exact hl'
    · exact hl u
  · rw [thr_setThr, if_neg fun e => hu (by simp [ha, e])]
  · rw [thr_setThr] at h
    split at h
    · next hu => exact hu ▸ sending e i h
    · exact .inl ⟨i, h⟩

theorem quiet (hl : ∀ u, FanLoc (s.thr u)) (ha : thrOf a = [t]) (hl' : FanLoc l')
    (effect : Effect s (setThr (relog s q' p' d' r' s.sent st') t l')) (hn : prog l' = none) :
    FanEff s (setThr (relog s q' p' d' r' s.sent st') t l') a :=
  of_relog hl ha hl' effect (fun e i h => by rw [hn] at h; cases h) (.inl rfl)

theorem cont (hl : ∀ u, FanLoc (s.thr u)) (ha : thrOf a = [t]) {ev i k : Nat}
    (effect : Effect s (setThr (relog s q' p' d' r' s.sent st') t l')) (h0 : prog (s.thr t) = some (ev, i))
    (h1 : prog l' = some (ev, k)) : FanEff s (setThr (relog s q' p' d' r' s.sent st') t l') a :=
  of_relog hl ha (by cases l' <;> first | trivial | cases h1) effect
    (fun e j h => by rw [h1] at h; cases h; exact .inl ⟨i, h0⟩) (.inl rfl)

theorem finish (hl : ∀ u, FanLoc (s.thr u)) (ha : thrOf a = [t]) {ev i : Nat} {r : Res}
    (effect : Effect s (setThr (relog s q' p' d' r' (s.sent ++ [ev]) st') t (.done r)))
    (h0 : prog (s.thr t) = some (ev, i)) : FanEff s (setThr (relog s q' p' d' r' (s.sent ++ [ev]) st') t (.done r)) a :=
  of_relog hl ha trivial effect (fun e j h => by cases h) (.inr ⟨ev, rfl, .inl ⟨i, h0⟩⟩)

end FanEff

theorem fanEff_step {s : St} (t : Nat) (hl : ∀ u, FanLoc (s.thr u)) : FanEff s (step s t) (.step t) := by
  have ht := hl t
  cases hc : s.thr t <;> rw [hc] at ht <;> simp only [FanLoc] at ht
  case idle => rw [step_idle hc]; exact .refl hl rfl
  case done r => rw [step_done hc]; exact .refl hl rfl
  case fArc ev i id =>
    have hp : prog (s.thr t) = some (ev, i) := hc ▸ rfl
    rw [step_of_at hc step_at_fArc]
    split
    · exact .finish hl rfl (.silent rfl rfl rfl) hp
    · split
      · exact .cont hl rfl (.pub ev id rfl rfl rfl) hp rfl
      · exact .finish hl rfl (.pub ev id rfl rfl rfl) hp
  case fCount ev =>
    have hp : prog (s.thr t) = some (ev, 0) := hc ▸ rfl
    rw [step_of_at hc step_at_fCount]
    split
    · exact .finish hl rfl (.silent rfl rfl rfl) hp
    · exact .cont hl rfl (.silent rfl rfl rfl) hp rfl
  case fOgre ev i cnt =>
    have hp : prog (s.thr t) = some (ev, i) := hc ▸ rfl
    rw [step_of_at hc (step_at_fOgre rfl)]
    split <;> split
    · exact .cont hl rfl (.silent rfl rfl rfl) hp rfl
    · exact .cont hl rfl (.pub ev _ rfl rfl rfl) hp rfl
    · exact .finish hl rfl (.silent rfl rfl rfl) hp
    · exact .finish hl rfl (.pub ev _ rfl rfl rfl) hp
  case pPoll id =>
    cases hq : s.queues id with
    | nil => rw [step_of_at hc (step_at_pPoll_nil hq)]; exact .quiet hl rfl trivial (.silent rfl rfl rfl) rfl
    | cons ev rest =>
      rw [step_of_at hc (step_at_pPoll hq)]
      exact .quiet hl rfl trivial (.take id (s.inc id) ev rest hq rfl rfl rfl) rfl

theorem fanEff_apply {s : St} (a : Act) (ha : FanAct a) (hl : ∀ u, FanLoc (s.thr u)) : FanEff s (apply s a) a := by
  cases a with
  | create t | drop t id => exact ha.elim
  | step t => exact fanEff_step t hl
  | release ev => exact .still hl fun _ => rfl
  | cancel id => exact .still hl fun j => by simp [cancelOf]
  | poll t id | ack t =>
    simp only [apply]
    split
    · exact .quiet hl rfl trivial (.silent rfl rfl rfl) rfl
    · exact .refl hl rfl
  | send t ev =>
    by_cases hi : s.thr t = .idle
    · rcases flavor_cases s with hf | hf
      · by_cases hm : s.MAX = 0
        · rw [apply_send_arc0 hi hf hm]
          exact .of_relog hl rfl trivial (.silent rfl rfl rfl) (fun _ _ h => by cases h)
            (.inr ⟨ev, rfl, .inr rfl⟩)
        · rw [apply_send_arc hi hf hm]
          exact .of_relog hl rfl trivial (.silent rfl rfl rfl) (fun e i h => by cases h; exact .inr rfl) (.inl rfl)
      · by_cases hacc : (s.started.filter (fun e => s.refs e > 0)).length < s.N
        · rw [apply_send_ogre hi hf hacc]
          exact .of_relog hl rfl trivial (.silent rfl rfl rfl) (fun e i h => by cases h; exact .inr rfl) (.inl rfl)
        · rw [apply_send_full hi hf hacc]
          exact .quiet hl rfl trivial (.silent rfl rfl rfl) rfl
    · rw [show apply s (.send t ev) = s by simp only [apply, if_neg hi]]; exact .refl hl rfl

/-- `FanInv.order`, for what was appended to the logs of `s₀` -/
def QueueOrder (s₀ s : St) : Prop :=
  ∃ P D, s.pubs = s₀.pubs ++ P ∧ s.delivered = s₀.delivered ++ D ∧
    ∀ l, dlvOf D l ++ s.queues l = s₀.queues l ++ pubsTo P l

theorem QueueOrder.effect {s₀ s s' : St} : QueueOrder s₀ s → Effect s s' → QueueOrder s₀ s'
  | ⟨P, D, hp, hd, ho⟩, .silent ep eq ed => ⟨P, D, ep ▸ hp, ed ▸ hd, eq ▸ ho⟩
  | ⟨P, D, hp, hd, ho⟩, .pub ev id ep eq ed =>
    ⟨P ++ [(ev, id)], D, by rw [ep, hp, List.append_assoc], ed ▸ hd, fun l => by rw [eq]; exact order_pub ho ev id l⟩
  | ⟨P, D, hp, hd, ho⟩, .take id k ev rest eq0 ep eq ed =>
    ⟨P, D ++ [(id, k, ev)], ep ▸ hp, by rw [ed, hd, List.append_assoc], fun l => by rw [eq]; exact order_dlv ho eq0 k l⟩

structure FanRun (s s' : St) (as : List Act) : Prop where
  frame   : frameOf s' = frameOf s
  keep    : ∀ j, s'.keep j = if j ∈ cancelIds as then false else s.keep j
  loc     : ∀ u, FanLoc (s'.thr u)
  thr     : ∀ u, u ∉ as.flatMap thrOf → s'.thr u = s.thr u
  order   : ∀ {s₀ : St}, QueueOrder s₀ s → QueueOrder s₀ s'
  sending : ∀ t e i, prog (s'.thr t) = some (e, i) → (∃ j, prog (s.thr t) = some (e, j)) ∨ .send t e ∈ as
  sent    : ∃ S₂, s'.sent = s.sent ++ S₂ ∧
              ∀ e, e ∈ S₂ → (∃ t j, prog (s.thr t) = some (e, j)) ∨ ∃ u, .send u e ∈ as

theorem fanRun_run :
    ∀ (as : List Act) {s : St}, (∀ a, a ∈ as → FanAct a) → (∀ u, FanLoc (s.thr u)) → FanRun s (run s as) as
  | [], _, _, hl =>
    { frame := rfl, keep := fun _ => by simp [cancelIds], loc := hl, thr := fun _ _ => rfl, order := id,
      sending := fun _ _ i h => .inl ⟨i, h⟩, sent := ⟨[], by simp, nofun⟩ }
  | a :: as, s, hfa, hl => by
    have e := fanEff_apply a (hfa a (by simp)) hl
    have r := fanRun_run as (fun b hb => hfa b (by simp [hb])) e.loc
    -- a thread inside a send of `x` after `a`, or a `.send … x` later on
    have back : ∀ x, ((∃ t j, prog ((apply s a).thr t) = some (x, j)) ∨ ∃ u, .send u x ∈ as) →
        (∃ t j, prog (s.thr t) = some (x, j)) ∨ ∃ u, .send u x ∈ a :: as := fun x h => by
      rcases h with ⟨t, j, h⟩ | ⟨u, h⟩
      · rcases e.sending t x j h with ⟨k, hk⟩ | rfl
        · exact .inl ⟨t, k, hk⟩
        · exact .inr ⟨t, List.mem_cons_self ..⟩
      · exact .inr ⟨u, List.mem_cons_of_mem _ h⟩
    obtain ⟨S₂, q2, q3⟩ := r.sent
    refine { frame := r.frame.trans e.frame, keep := fun j => ?_, loc := r.loc, thr := fun u hu => ?_,
             order := fun h => r.order (h.effect e.effect), sending := fun t x i h => ?_, sent := ?_ }
    · rw [run_cons, r.keep j, e.keep j]
      simp only [cancelIds, List.flatMap_cons, List.mem_append]
      by_cases h1 : j ∈ cancelOf a <;> by_cases h2 : j ∈ as.flatMap cancelOf <;> simp [h1, h2]
    · simp only [List.flatMap_cons, List.mem_append, not_or] at hu
      exact (r.thr u hu.2).trans (e.thr u hu.1)
    · rcases r.sending t x i h with ⟨j, hj⟩ | h
      · rcases e.sending t x j hj with h | rfl
        · exact .inl h
        · exact .inr (List.mem_cons_self ..)
      · exact .inr (List.mem_cons_of_mem _ h)
    · rcases e.sent with e2 | ⟨x, e2, e3⟩
      · exact ⟨S₂, by rw [run_cons, q2, e2], fun y hy => back y (q3 y hy)⟩
      · refine ⟨x :: S₂, by rw [run_cons, q2, e2]; simp, fun y hy => ?_⟩
        rcases List.mem_cons.1 hy with rfl | hy
        · rcases e3 with h | ⟨u, rfl⟩
          · exact .inl h
          · exact .inr ⟨u, List.mem_cons_self ..⟩
        · exact back y (q3 y hy)

/-! ## whole executions -/

/-- consumers release only handles they received: at every `.release ev` of an event of `Ev`, the releases of `ev` so
    far are fewer than the deliveries of `ev` since `s₀` -/
def RelOK (s₀ : St) (Ev : List Nat) : St → List Nat → List Act → Prop
  | _, _, [] => True
  | s, R, a :: as =>
      (∀ ev, ev ∈ relOf a → ev ∈ Ev → R.count ev < dcount (s.delivered.drop s₀.delivered.length) ev) ∧
        RelOK s₀ Ev (apply s a) (R ++ relOf a) as

instance (s₀ : St) (Ev : List Nat) : (s : St) → (R : List Nat) → (as : List Act) → Decidable (RelOK s₀ Ev s R as)
  | _, _, [] => isTrue trivial
  | s, R, a :: as =>
    have := instDecidableRelOK s₀ Ev (apply s a) (R ++ relOf a) as
    by simp only [RelOK]; infer_instance

theorem relOK_no_events {s₀ : St} : ∀ (as : List Act) {s : St} {R : List Nat}, RelOK s₀ [] s R as
  | [], _, _ => trivial
  | a :: as, s, R => by
    simp only [RelOK]
    exact ⟨fun _ _ h => absurd h List.not_mem_nil, relOK_no_events as⟩

@[simp] theorem sendEvs_nil : sendEvs [] = [] := rfl
@[simp] theorem relEvs_nil : relEvs [] = [] := rfl
theorem sendEvs_cons (a : Act) (as : List Act) : sendEvs (a :: as) = sendOf a ++ sendEvs as := rfl
theorem relEvs_cons (a : Act) (as : List Act) : relEvs (a :: as) = relOf a ++ relEvs as := rfl
theorem sendEvs_append (as bs : List Act) : sendEvs (as ++ bs) = sendEvs as ++ sendEvs bs := by
  simp [sendEvs]
theorem relEvs_append (as bs : List Act) : relEvs (as ++ bs) = relEvs as ++ relEvs bs := by
  simp [relEvs]

theorem fanInv_run {s₀ : St} {Ev : List Nat} (hw : WF s₀) (hq0 : ∀ e, e ∈ Ev → ∀ l, e ∉ s₀.queues l) :
    ∀ (as : List Act) {E R : List Nat} {P : List (Nat × Nat)} {S : List Nat} {D : List (Nat × Nat × Nat)} {s : St},
      FanInv s₀ Ev E R P S D s → (∀ a, a ∈ as → FanAct a) → (E ++ sendEvs as).Nodup → RelOK s₀ Ev s R as →
      FanNext s₀ Ev (E ++ sendEvs as) (R ++ relEvs as) P S D (run s as)
  | [], E, R, P, S, D, s, h, _, _, _ => .of (by simpa using h)
  | a :: as, E, R, P, S, D, s, h, hfa, hnd, hrel => by
    have hdrop : s.delivered.drop s₀.delivered.length = D := by rw [h.dlvEq, List.drop_left]
    obtain ⟨_, _, _, hP, hS, hD, h1⟩ := fanInv_apply h hw hq0 a (hfa a (by simp))
      (fun ev he hE => by
        rw [sendEvs_cons, List.nodup_append] at hnd
        exact hnd.2.2 ev hE ev (by simp [he]) rfl)
      (fun ev he hE => hdrop ▸ hrel.1 ev he hE)
    obtain ⟨P', S', D', hP', hS', hD', h2⟩ := fanInv_run hw hq0 as h1 (fun b hb => hfa b (by simp [hb]))
      (by rw [sendEvs_cons, ← List.append_assoc] at hnd; exact hnd) hrel.2
    rw [run_cons, sendEvs_cons, relEvs_cons, ← List.append_assoc, ← List.append_assoc]
    exact ⟨P', S', D', hP.trans hP', hS.trans hS', hD.trans hD', h2⟩

theorem fanInv_run_wf {s₀ : St} (hw : WF s₀) (Ev : List Nat) (as : List Act) (hq0 : ∀ e, e ∈ Ev → ∀ l, e ∉ s₀.queues l)
    (hfa : ∀ a, a ∈ as → FanAct a) (hnd : (sendEvs as).Nodup) (hrel : RelOK s₀ Ev s₀ [] as) :
    ∃ P S D, FanInv s₀ Ev (sendEvs as) (relEvs as) P S D (run s₀ as) := by
  obtain ⟨P, S, D, _, _, _, h⟩ := fanInv_run hw hq0 as (fanInv_init hw Ev) hfa (by simpa using hnd) hrel
  exact ⟨P, S, D, by simpa using h⟩

/-- `fanInv_run_wf` with `Ev = []`: nothing is assumed, and nothing said, about the reference counter -/
theorem fanInv_run_wf_nil {s₀ : St} (hw : WF s₀) (as : List Act)
    (hfa : ∀ a, a ∈ as → FanAct a) (hnd : (sendEvs as).Nodup) :
    ∃ P S D, FanInv s₀ [] (sendEvs as) (relEvs as) P S D (run s₀ as) :=
  fanInv_run_wf hw [] as nofun hfa hnd (relOK_no_events as)

theorem fanInv_split {s₀ : St} (hw : WF s₀) (as₁ as₂ : List Act)
    (hfa : ∀ a, a ∈ as₁ ++ as₂ → FanAct a) (hnd : (sendEvs (as₁ ++ as₂)).Nodup) :
    ∃ P₁ S₁ D₁ P₂ S₂ D₂, FanInv s₀ [] (sendEvs as₁) (relEvs as₁) P₁ S₁ D₁ (run s₀ as₁) ∧
      FanInv s₀ [] (sendEvs (as₁ ++ as₂)) (relEvs (as₁ ++ as₂)) (P₁ ++ P₂) (S₁ ++ S₂) (D₁ ++ D₂)
        (run s₀ (as₁ ++ as₂)) := by
  rw [sendEvs_append] at hnd
  obtain ⟨P₁, S₁, D₁, h1⟩ := fanInv_run_wf_nil hw as₁ (fun a ha => hfa a (by simp [ha])) (List.nodup_append.1 hnd).1
  obtain ⟨_, _, _, ⟨P₂, rfl⟩, ⟨S₂, rfl⟩, ⟨D₂, rfl⟩, h2⟩ := fanInv_run hw (Ev := []) nofun
    as₂ h1 (fun a ha => hfa a (by simp [ha])) hnd (relOK_no_events as₂)
  exact ⟨P₁, S₁, D₁, P₂, S₂, D₂, h1, by rw [run_append, sendEvs_append, relEvs_append]; exact h2⟩

/-! ## a producer thread's sends are sequential -/

theorem mem_sendEvs_of_mem {as : List Act} {u e : Nat} (h : Act.send u e ∈ as) : e ∈ sendEvs as :=
  List.mem_flatMap.2 ⟨_, h, by simp [sendOf]⟩

theorem send_unique : ∀ {as : List Act} {u t e : Nat}, (sendEvs as).Nodup → Act.send u e ∈ as → Act.send t e ∈ as → u = t
  | [], _, _, _, _, hu, _ => nomatch hu
  | a :: as, u, t, e, hnd, hu, ht => by
    rw [sendEvs_cons, List.nodup_append] at hnd
    rcases List.mem_cons.1 hu with rfl | hu' <;> rcases List.mem_cons.1 ht with h | ht'
    · cases h; rfl
    · exact absurd rfl (hnd.2.2 e (by simp [sendOf]) e (mem_sendEvs_of_mem ht'))
    · subst h
      exact absurd rfl (hnd.2.2 e (by simp [sendOf]) e (mem_sendEvs_of_mem hu'))
    · exact send_unique hnd.2.1 hu' ht'

section later
variable {s₀ : St} {Ev E₁ R₁ E₂ R₂ : List Nat} {P₁ P₂ : List (Nat × Nat)} {S₁ S₂ : List Nat}
  {D₁ D₂ : List (Nat × Nat × Nat)} {s₁ s₂ : St}

theorem FanInv.sealed (h1 : FanInv s₀ Ev E₁ R₁ P₁ S₁ D₁ s₁) (h2 : FanInv s₀ Ev E₂ R₂ (P₁ ++ P₂) (S₁ ++ S₂) D₂ s₂)
    {ev : Nat} (he : ev ∈ S₁) (l : Nat) : (ev, l) ∉ P₂ := by
  have e2 := (h2.core.fin ev (List.mem_append_left _ he)).2
  rw [pubsOf_append, (h1.core.fin ev he).2] at e2
  exact not_mem_of_pubsOf_nil (List.append_right_eq_self.1 e2) l

/-- an event that at some point is neither complete nor being sent, and is not passed to a later `.send`, is never
    published at all -/
theorem FanInv.never_pub {as : List Act} (h1 : FanInv s₀ Ev E₁ R₁ P₁ S₁ D₁ s₁)
    (h2 : FanInv s₀ Ev E₂ R₂ (P₁ ++ P₂) (S₁ ++ S₂) D₂ (run s₁ as)) (hfa : ∀ a, a ∈ as → FanAct a)
    {ev : Nat} (hs : ev ∉ S₁) (hq : ∀ t i, prog (s₁.thr t) ≠ some (ev, i))
    (hne : ev ∉ sendEvs as) (l : Nat) : (ev, l) ∉ P₁ ++ P₂ := by
  have r := fanRun_run as hfa fun u => (h1.lok u).fanLoc
  obtain ⟨S', q2, q3⟩ := r.sent
  have hS : S₂ = S' := by
    have := h2.sentEq
    rw [q2, h1.sentEq, List.append_assoc] at this
    exact (List.append_cancel_left (List.append_cancel_left this)).symm
  have new : ∀ u, Act.send u ev ∉ as := fun u h => hne (mem_sendEvs_of_mem h)
  refine not_mem_of_pubsOf_nil (h2.core.oth ev (fun h => ?_) fun t i h => ?_) l
  · rcases (q3 ev ((List.mem_append.1 (hS ▸ h)).resolve_left hs)) with ⟨t, j, h⟩ | ⟨u, h⟩
    · exact hq t j h
    · exact new u h
  · exact (r.sending t ev i h).elim (fun ⟨j, hj⟩ => hq t j hj) (new t)

end later

/-! ## phases: sequential churn alternating with concurrent fan-out -/

/-- either a sequential history of completed operations (`create`/`drop`/… on thread 0, nobody interleaving) or a
    concurrent execution without `create`/`drop` -/
inductive Phase where
  | churn (h : List Op)
  | fan (as : List Act)

def runPhase (s : St) : Phase → St
  | .churn h => exec s h
  | .fan as => run s as

def runPhases (s : St) (ps : List Phase) : St := ps.foldl runPhase s

/-- a churn phase is a legal history; a fan-out phase contains no `create`/`drop`, and every thread that acted in it
    is idle at its end (all calls completed and acknowledged) -/
def PhaseOK (s : St) : Phase → Prop
  | .churn h => LegalH s h
  | .fan as => (∀ a, a ∈ as → FanAct a) ∧ (∀ t, t ∈ as.flatMap thrOf → (run s as).thr t = .idle)

def PhasesOK : St → List Phase → Prop
  | _, [] => True
  | s, p :: ps => PhaseOK s p ∧ PhasesOK (runPhase s p) ps

instance (s : St) (p : Phase) : Decidable (PhaseOK s p) := by
  cases p <;> simp only [PhaseOK] <;> infer_instance

instance : (s : St) → (ps : List Phase) → Decidable (PhasesOK s ps)
  | _, [] => isTrue trivial
  | s, p :: ps =>
    have := instDecidablePhasesOK (runPhase s p) ps
    by simp only [PhasesOK]; infer_instance

theorem wf_runPhase {s : St} {p : Phase} (hw : WF s) (h : PhaseOK s p) : WF (runPhase s p) := by
  cases p with
  | churn hs => exact wf_exec hw h
  | fan as =>
    have r := fanRun_run as h.1 hw.fanLoc
    refine wf_of_frame hw r.frame fun t => ?_
    by_cases ht : t ∈ as.flatMap thrOf
    · exact h.2 t ht
    · exact (r.thr t ht).trans (hw.idle t)

theorem wf_runPhases {s : St} {ps : List Phase} (hw : WF s) (h : PhasesOK s ps) : WF (runPhases s ps) :=
  foldl_of_ok (ok := PhasesOK) (fun _ _ _ hw h => ⟨wf_runPhase hw h.1, h.2⟩) ps s hw h

theorem runPhases_eq_run (s : St) (ps : List Phase) : ∃ as, runPhases s ps = run s as := by
  induction ps generalizing s with
  | nil => exact ⟨[], rfl⟩
  | cons p ps ih =>
    obtain ⟨as, h⟩ := ih (runPhase s p)
    cases p with
    | churn hs => exact ⟨hs.flatMap (opActs s.MAX) ++ as, by rw [run_append, ← exec_eq_run]; exact h⟩
    | fan bs => exact ⟨bs ++ as, by rw [run_append]; exact h⟩

end Mutiny.Multi
