import Mutiny.Model.Stack
import Mutiny.Proofs.SpinFlag
import Mutiny.Proofs.Basic

/-!
# The `Stack` model (flag-guarded bounded stack + parking-lot variant): invariant, linearization points, solo progress

`Inv n s` has a lock part, which is `SpinFlag.Excl` and is preserved by its lemmas, and a data part: `s.N = n` (inside
the invariant, so `reachable_inv` takes no hypothesis on `n`) and the ghost history replays on the abstract bounded
stack to the present content (`replay.go_append` extends a replay by the event a critical step appends).  The rest is
what C18 reads off one step: what the two critical regions answer, `push_point` / `pop_point` (one statement each for
both stacks, the result point a parameter), and the measure `togo` behind solo progress.
`holder` and `critical` end in a wildcard: a new program point is in neither until it is entered there.
-/

namespace Mutiny.Stack
open SpinFlag

@[simp] theorem thr_setThr (s : St) (t : Nat) (l : Loc) (u : Nat) :
    (setThr s t l).thr u = if u = t then l else s.thr u := rfl
@[simp] theorem N_setThr (s : St) (t : Nat) (l : Loc) : (setThr s t l).N = s.N := rfl
@[simp] theorem flag_setThr (s : St) (t : Nat) (l : Loc) : (setThr s t l).flag = s.flag := rfl
@[simp] theorem items_setThr (s : St) (t : Nat) (l : Loc) : (setThr s t l).items = s.items := rfl
@[simp] theorem hist_setThr (s : St) (t : Nat) (l : Loc) : (setThr s t l).hist = s.hist := rfl

/-! ## the critical regions -/

theorem pushCrit_ok (s : St) (t v : Nat) (h : s.items.length < s.N) :
    pushCrit s t v = ({ s with items := s.items ++ [v], hist := s.hist ++ [(t, .inl v)] }, true) := by
  simp only [pushCrit]; rw [if_neg (by omega)]

theorem pushCrit_full (s : St) (t v : Nat) (h : s.N ≤ s.items.length) : pushCrit s t v = (s, false) := by
  simp only [pushCrit]; rw [if_pos h]

theorem popCrit_some (s : St) (t v : Nat) (h : s.items.getLast? = some v) :
    popCrit s t = ({ s with items := s.items.dropLast, hist := s.hist ++ [(t, .inr v)] }, some v) := by
  simp only [popCrit, h]

theorem popCrit_none (s : St) (t : Nat) (h : s.items = []) : popCrit s t = (s, none) := by
  simp only [popCrit, h, List.getLast?_nil]

theorem pushCrit_snd (s : St) (t v : Nat) : (pushCrit s t v).2 = decide (s.items.length < s.N) := by
  simp only [pushCrit]; split <;> simp <;> omega

theorem popCrit_snd (s : St) (t : Nat) : (popCrit s t).2 = s.items.getLast? := by
  simp only [popCrit]; split <;> simp [*]

@[simp] theorem pushCrit_thr (s : St) (t v : Nat) : (pushCrit s t v).1.thr = s.thr := by
  simp only [pushCrit]; split <;> rfl
@[simp] theorem pushCrit_flag (s : St) (t v : Nat) : (pushCrit s t v).1.flag = s.flag := by
  simp only [pushCrit]; split <;> rfl
@[simp] theorem pushCrit_N (s : St) (t v : Nat) : (pushCrit s t v).1.N = s.N := by
  simp only [pushCrit]; split <;> rfl
@[simp] theorem popCrit_thr (s : St) (t : Nat) : (popCrit s t).1.thr = s.thr := by
  simp only [popCrit]; split <;> rfl
@[simp] theorem popCrit_flag (s : St) (t : Nat) : (popCrit s t).1.flag = s.flag := by
  simp only [popCrit]; split <;> rfl
@[simp] theorem popCrit_N (s : St) (t : Nat) : (popCrit s t).1.N = s.N := by
  simp only [popCrit]; split <;> rfl

/-! ## replaying a history on the abstract bounded stack -/

theorem replay_eq (n : Nat) (h : List (Nat × (Nat ⊕ Nat))) : replay n h = replay.go n [] h := by
  cases h <;> rfl

theorem replay.go_append (n : Nat) (st : List Nat) (h1 h2 : List (Nat × (Nat ⊕ Nat))) :
    replay.go n st (h1 ++ h2) = (replay.go n st h1).bind (fun st' => replay.go n st' h2) := by
  fun_induction replay.go n st h1 with
  | case1 => rfl
  | case2 st _ v rest hlt ih => simpa [replay.go, hlt] using ih
  | case3 st _ v rest hge => simp [replay.go, hge]
  | case4 st _ v rest hl ih => simpa [replay.go, hl] using ih
  | case5 st _ v rest hne => simp [replay.go, hne]

/-- values pushed successfully, in linearization order; `pops`: values popped -/
def pushes (h : List (Nat × (Nat ⊕ Nat))) : List Nat :=
  h.filterMap (fun e => match e.2 with | .inl v => some v | .inr _ => none)

def pops (h : List (Nat × (Nat ⊕ Nat))) : List Nat :=
  h.filterMap (fun e => match e.2 with | .inl _ => none | .inr v => some v)

@[simp] theorem pushes_nil : pushes [] = [] := rfl
@[simp] theorem pops_nil : pops [] = [] := rfl
@[simp] theorem pushes_cons_inl (t v : Nat) (h) : pushes ((t, .inl v) :: h) = v :: pushes h := rfl
@[simp] theorem pushes_cons_inr (t v : Nat) (h) : pushes ((t, .inr v) :: h) = pushes h := rfl
@[simp] theorem pops_cons_inl (t v : Nat) (h) : pops ((t, .inl v) :: h) = pops h := rfl
@[simp] theorem pops_cons_inr (t v : Nat) (h) : pops ((t, .inr v) :: h) = v :: pops h := rfl

theorem replay.go_count {n : Nat} {st st' : List Nat} {h : List (Nat × (Nat ⊕ Nat))}
    (hgo : replay.go n st h = some st') (v : Nat) :
    st.count v + (pushes h).count v = (pops h).count v + st'.count v := by
  fun_induction replay.go n st h with
  | case1 st => cases hgo; simp
  | case2 st _ w rest _ ih =>
    have := ih hgo
    simp only [pushes_cons_inl, pops_cons_inl, List.count_cons, List.count_append, List.count_nil] at this ⊢
    omega
  | case4 st _ w rest hl ih =>
    have := ih hgo
    have hc : st.count v = st.dropLast.count v + (if w == v then 1 else 0) := by
      conv => lhs; rw [getLast?_eq_some_iff_snoc.1 hl]
      simp [List.count_cons]
    simp only [pushes_cons_inr, pops_cons_inr, List.count_cons] at this ⊢
    omega
  | case3 | case5 => cases hgo

theorem replay.go_length_le {n : Nat} {st st' : List Nat} {h : List (Nat × (Nat ⊕ Nat))}
    (hgo : replay.go n st h = some st') (hst : st.length ≤ n) : st'.length ≤ n := by
  fun_induction replay.go n st h with
  | case1 st => exact Option.some.inj hgo ▸ hst
  | case2 st _ v rest _ ih | case4 st _ v rest _ ih => exact ih hgo (by simp; omega)
  | case3 | case5 => cases hgo

/-! ## the invariant -/

/-- Program points inside the flag-guarded region. -/
def holder : Loc → Prop
  | .pCrit _ | .pUnlock _ | .cCrit | .cUnlock _ => True
  | _ => False

instance : DecidablePred holder := fun l => by
  cases l <;> simp only [holder] <;> infer_instance

/-- the part of the invariant about the flag and the program points: `SpinFlag.Excl` of this model, a structure of its
    own only as a parent of `Inv`; the proofs leave it by `Inv.excl` and come back by `Inv.of_excl` -/
structure LockInv (s : St) : Prop where
  flagIff : s.flag = true ↔ ∃ t, holder (s.thr t)
  mutex   : ∀ t u, holder (s.thr t) → holder (s.thr u) → t = u

/-- the part of the invariant about the content and the ghost history; `lin` speaks of `replay.go n []`, the form the
    inductions (`replay.go_append`, `replay.go_count`) work on, and `replay_eq` takes it to `replay n` -/
structure DataInv (n : Nat) (s : St) : Prop where
  Neq : s.N = n
  cap : s.items.length ≤ s.N
  lin : replay.go n [] s.hist = some s.items

structure Inv (n : Nat) (s : St) : Prop extends LockInv s, DataInv n s

theorem inv_init (n : Nat) : Inv n (init n) := by
  refine ⟨⟨?_, ?_⟩, ⟨rfl, ?_, rfl⟩⟩ <;> simp [init, holder]

/-- Every hypothesis defaults to "untouched" (`rfl`): a step that leaves `N`, `items`, `hist` alone calls it bare. -/
theorem DataInv.same {n : Nat} {s s' : St} (h : DataInv n s) (h1 : s'.N = s.N := by rfl)
    (h2 : s'.items = s.items := by rfl) (h3 : s'.hist = s.hist := by rfl) : DataInv n s' :=
  { Neq := h1.trans h.Neq, cap := by rw [h1, h2]; exact h.cap, lin := by rw [h2, h3]; exact h.lin }

theorem dataInv_pushCrit {n : Nat} (s : St) (t v : Nat) (h : DataInv n s) : DataInv n (pushCrit s t v).1 := by
  by_cases hf : s.items.length < s.N
  · rw [pushCrit_ok s t v hf]
    refine ⟨h.Neq, by simp; omega, ?_⟩
    simp only
    rw [replay.go_append, h.lin, Option.bind_some]
    simp [replay.go, h.Neq ▸ hf]
  · rw [pushCrit_full s t v (by omega)]
    exact h

theorem dataInv_popCrit {n : Nat} (s : St) (t : Nat) (h : DataInv n s) : DataInv n (popCrit s t).1 := by
  cases hl : s.items.getLast? with
  | none =>
    rw [popCrit_none s t (by simpa using hl)]
    exact h
  | some v =>
    rw [popCrit_some s t v hl]
    have := h.cap
    refine ⟨h.Neq, by simp; omega, ?_⟩
    simp only
    rw [replay.go_append, h.lin, Option.bind_some]
    simp [replay.go, hl]

theorem Inv.excl {n : Nat} {s : St} (h : Inv n s) : Excl holder s.flag s.thr := ⟨h.flagIff, h.mutex⟩

theorem Inv.of_excl {n : Nat} {s : St} (x : Excl holder s.flag s.thr) (d : DataInv n s) : Inv n s :=
  { d with flagIff := x.flagIff, mutex := x.mutex }

/-- A step that keeps `t` on its side of the region's boundary and leaves the flag alone. -/
theorem Inv.stay {n : Nat} {s r : St} {t : Nat} {l : Loc} (h : Inv n s) (hr : r.thr = s.thr) (hf : r.flag = s.flag)
    (hd : DataInv n r) (hl : holder (s.thr t) ↔ holder l) : Inv n (setThr r t l) := by
  have x := h.excl
  refine .of_excl ?_ hd.same
  simp only [setThr, hr, hf]
  by_cases ht : holder (s.thr t)
  · exact x.own (.inl ht) (by simp [← hl, ht, x.locked ht])
  · exact x.other ht (mt hl.2 ht)

theorem inv_step {n : Nat} (s : St) (t : Nat) (h : Inv n s) : Inv n (step s t) := by
  have x := h.excl
  have d := h.toDataInv
  cases ht : s.thr t <;> simp only [step, ht]
  case idle | done => exact h
  case pSwap | cSwap =>
    split
    next => exact h
    next hf => exact .of_excl (x.own (.inr (eq_false_of_ne_true hf)) (by simp [holder])) d.same
  case pCrit v | plPush v =>
    exact h.stay (pushCrit_thr s t v) (pushCrit_flag s t v) (dataInv_pushCrit s t v d) (by simp [ht, holder])
  case cCrit | plPop =>
    exact h.stay (popCrit_thr s t) (popCrit_flag s t) (dataInv_popCrit s t d) (by simp [ht, holder])
  case pUnlock | cUnlock =>
    exact .of_excl (x.own (.inl (by simp [ht, holder])) (by simp [holder])) d.same

theorem inv_apply {n : Nat} (s : St) (a : Act) (h : Inv n s) : Inv n (apply s a) := by
  cases a with
  | step t => exact inv_step s t h
  | push t _ | pop t | plPush t _ | plPop t | ack t =>
    simp only [apply]; split
    · exact h.stay rfl rfl h.toDataInv (by simp [*, holder])
    · exact h

theorem inv_run {n : Nat} (s : St) (as : List Act) (h : Inv n s) : Inv n (run s as) :=
  List.foldlRecOn as apply h fun s hs a _ => inv_apply s a hs

theorem reachable_inv {n : Nat} {s : St} (h : Reachable n s) : Inv n s := by
  obtain ⟨as, rfl⟩ := h
  exact inv_run _ as (inv_init n)

theorem reachable_apply {n : Nat} {s : St} (h : Reachable n s) (a : Act) : Reachable n (apply s a) := by
  obtain ⟨as, rfl⟩ := h
  exact ⟨as ++ [a], by simp [run, List.foldl_append]⟩

theorem run_append (s : St) (as bs : List Act) : run s (as ++ bs) = run (run s as) bs := by
  simp [run, List.foldl_append]

/-! ## the linearization points -/

/-- program points whose step is a linearization point (touches `items` / `hist`) -/
def critical : Loc → Prop
  | .pCrit _ | .cCrit | .plPush _ | .plPop => True
  | _ => False

theorem step_thr_ne (s : St) (t u : Nat) (h : u ≠ t) : (step s t).thr u = s.thr u := by
  cases ht : s.thr t <;> simp only [step, ht] <;> (try split) <;> simp [h]

theorem holder_iff (l : Loc) :
    holder l ↔ (∃ v, l = .pCrit v) ∨ (∃ ok, l = .pUnlock ok) ∨ l = .cCrit ∨ ∃ r, l = .cUnlock r := by
  cases l <;> simp [holder]

theorem step_event (s : St) (t : Nat) :
    ((step s t).items = s.items ∧ (step s t).hist = s.hist)
    ∨ (critical (s.thr t) ∧ ∃ e, (step s t).hist = s.hist ++ [(t, e)]) := by
  cases ht : s.thr t with
  | pCrit v | plPush v => simp only [step, ht, pushCrit]; split <;> simp [critical]
  | cCrit | plPop => simp only [step, ht, popCrit]; split <;> simp [critical]
  | _ => simp only [step, ht]; (try split) <;> simp

/-- A step that runs the `push` region and goes to `l ok`: the linearization point of `push`, for either stack;
`pop_point`: of `pop`. -/
theorem push_point {s : St} {t v : Nat} {l : Bool → Loc} (hcap : s.items.length ≤ s.N)
    (e : step s t = setThr (pushCrit s t v).1 t (l (pushCrit s t v).2)) :
    (step s t).thr t = l (decide (s.items.length < s.N))
    ∧ (s.items.length < s.N →
        (step s t).items = s.items ++ [v] ∧ (step s t).hist = s.hist ++ [(t, .inl v)])
    ∧ (¬ s.items.length < s.N →
        s.items.length = s.N ∧ (step s t).items = s.items ∧ (step s t).hist = s.hist)
    ∧ (step s t).flag = s.flag ∧ ∀ u, u ≠ t → (step s t).thr u = s.thr u := by
  refine ⟨by simp [e, pushCrit_snd], fun hlt => ?_, fun hge => ?_, by simp [e], fun u hu => step_thr_ne s t u hu⟩
  · simp [e, pushCrit_ok s t v hlt]
  · rw [e, pushCrit_full s t v (by omega)]; exact ⟨by omega, rfl, rfl⟩

theorem pop_point {s : St} {t : Nat} {l : Option Nat → Loc}
    (e : step s t = setThr (popCrit s t).1 t (l (popCrit s t).2)) :
    (step s t).thr t = l s.items.getLast?
    ∧ (∀ rest v, s.items = rest ++ [v] →
        (step s t).items = rest ∧ (step s t).hist = s.hist ++ [(t, .inr v)])
    ∧ (s.items = [] → (step s t).items = s.items ∧ (step s t).hist = s.hist)
    ∧ (step s t).flag = s.flag ∧ ∀ u, u ≠ t → (step s t).thr u = s.thr u := by
  refine ⟨by simp [e, popCrit_snd], fun rest v hi => ?_, fun hi => ?_, by simp [e], fun u hu => step_thr_ne s t u hu⟩
  · simp [e, popCrit_some s t v (by simp [hi]), hi]
  · simp [e, popCrit_none s t hi]

/-! ## solo progress -/

/-- Own steps still to go for a thread that is inside the region or finds the flag free. -/
def togo : Loc → Nat
  | .idle | .done _ => 0
  | .pUnlock _ | .cUnlock _ | .plPush _ | .plPop => 1
  | .pCrit _ | .cCrit => 2
  | .pSwap _ | .cSwap => 3

theorem togo_le (l : Loc) : togo l ≤ 3 := by cases l <;> exact Nat.le_of_ble_eq_true rfl

theorem togo_eq_zero {l : Loc} (h : togo l = 0) : l = .idle ∨ ∃ r, l = .done r := by cases l <;> simp_all [togo]

theorem togo_step (s : St) (t : Nat) (hf : Sole holder s.flag s.thr t) (h0 : togo (s.thr t) ≠ 0) :
    togo ((step s t).thr t) < togo (s.thr t) ∧ (step s t).thr t ≠ .idle
    ∧ Sole holder (step s t).flag (step s t).thr t := by
  cases ht : s.thr t <;> simp only [Sole, ht, togo, holder, false_or, ne_eq, not_true_eq_false] at hf h0 <;>
    simp [Sole, step, ht, hf, togo, holder]

theorem finishes_togo {s : St} {t : Nat} (hi : s.thr t ≠ .idle) (hf : Sole holder s.flag s.thr t) :
    ∃ k, k ≤ togo (s.thr t) ∧ ∃ r, (run s (List.replicate k (.step t))).thr t = .done r := by
  obtain ⟨k, hk, h0, hi', -⟩ := foldl_replicate_of_measure (f := apply) (a := .step t) (m := fun s => togo (s.thr t))
    (ok := fun s => s.thr t ≠ .idle ∧ Sole holder s.flag s.thr t) (fun s h h0 => togo_step s t h.2 h0) s
    ⟨hi, hf⟩
  exact ⟨k, hk, (togo_eq_zero h0).resolve_left hi'⟩

end Mutiny.Stack
