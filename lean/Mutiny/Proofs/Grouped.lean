/-!
# A table `key ↦ values` and the flat list of its `(key, value)` pairs

`Generated/Tags.lean` is such a flat list of (file, hook tag), sorted by file.  Comparing two different string literals
costs the kernel a UTF-8 encoding of both, comparing a literal with itself nothing; so `Props/Tags.lean` does not filter
the flat list by file name: it states once that the list is `ungroup` of a table with one row per file and reads every
per-file fact off the table, by row number.  What is left of string comparison is that the keys are distinct.
-/

namespace Mutiny
variable {α β : Type}

def ungroup (G : List (α × List β)) : List (α × β) := G.flatMap fun g => g.2.map (g.1, ·)

theorem ungroup_cons (g : α × List β) (G : List (α × List β)) :
    ungroup (g :: G) = g.2.map (g.1, ·) ++ ungroup G := rfl

theorem fst_mem_of_mem_ungroup {G : List (α × List β)} {a : α × β} (h : a ∈ ungroup G) : a.1 ∈ G.map (·.1) := by
  obtain ⟨g, hg, ha⟩ := List.mem_flatMap.1 h
  obtain ⟨_, _, rfl⟩ := List.mem_map.1 ha
  exact List.mem_map.2 ⟨g, hg, rfl⟩

variable [BEq α] [LawfulBEq α] {G : List (α × List β)}

theorem filter_ungroup (hnd : (G.map (·.1)).Nodup) {k : α} {vs : List β} (h : (k, vs) ∈ G) :
    ((ungroup G).filter (·.1 == k)).map (·.2) = vs := by
  induction G with
  | nil => cases h
  | cons g G ih =>
    obtain ⟨hg, hnd⟩ := List.nodup_cons.1 hnd
    rw [ungroup_cons, List.filter_append, List.map_append]
    rcases List.mem_cons.1 h with rfl | h
    · rw [List.filter_eq_nil_iff.2 fun (a : α × β) ha e => hg ((eq_of_beq e : a.1 = k) ▸ fst_mem_of_mem_ungroup ha)]
      simp [List.filter_map, Function.comp_def]
    · have : g.1 ≠ k := fun e => hg (List.mem_map.2 ⟨_, h, e.symm⟩)
      rw [ih hnd h, List.filter_map]
      simp [Function.comp_def, this]

/-- the keys of the flat list in order of first occurrence are the keys of the table, when these are distinct and no
    row is empty -/
theorem eraseDups_keys_ungroup (hnd : (G.map (·.1)).Nodup) (hne : ∀ g ∈ G, g.2 ≠ []) :
    ((ungroup G).map (·.1)).eraseDups = G.map (·.1) := by
  induction G with
  | nil => rfl
  | cons g G ih =>
    obtain ⟨k, vs⟩ := g
    obtain ⟨hg, hnd'⟩ := List.nodup_cons.1 hnd
    cases vs with
    | nil => exact absurd rfl (hne _ (.head _))
    | cons v vs =>
      have hrest : ((ungroup G).map (·.1)).filter (fun b => !b == k) = (ungroup G).map (·.1) :=
        List.filter_eq_self.2 fun a ha => by
          obtain ⟨a, ha', rfl⟩ := List.mem_map.1 ha
          simpa using fun e : a.1 = k => hg (e ▸ fst_mem_of_mem_ungroup ha')
      simp only [ungroup_cons, List.map_cons, List.cons_append, List.map_append, List.map_map, List.eraseDups_cons,
        List.filter_append, hrest]
      rw [List.filter_eq_nil_iff.2 (by simp), List.nil_append, ih hnd' fun g hg => hne g (.tail _ hg)]

end Mutiny
