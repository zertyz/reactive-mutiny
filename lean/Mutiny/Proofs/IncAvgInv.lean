import Mutiny.Model.IncAvg

/-!
# Inductive invariant of the `IncAvg` model (`AtomicIncrementalAverage64`: load / compute / CAS / retry)

The cell is the fold of `upd` over the commit order, and `stored`, the values it ever held, are the folds of the
prefixes of that order (`prefixFolds`); the expected value a thread carries to its CAS is one of `stored`.  So a CAS
that succeeds extends the commit order by exactly its own measurement, on the fold of all the earlier ones.  Everything
here holds for an arbitrary `avgUpd` (the floating-point formula on bit patterns is abstract).

A new program point enters `Local` and `apply_cases`; by hand it is classified in `flying` (IncAvgOnce: a disjunction of
equations, which takes it as not in flight, and the failure surfaces later, in `Local.flying_iff`) and the model's `tagOf`.
-/

namespace Mutiny.IncAvg

@[simp] theorem thr_setThr (s : St) (t : Nat) (l : Loc) (u : Nat) :
    (setThr s t l).thr u = if u = t then l else s.thr u := rfl
@[simp] theorem cell_setThr (s : St) (t : Nat) (l : Loc) : (setThr s t l).cell = s.cell := rfl
@[simp] theorem commits_setThr (s : St) (t : Nat) (l : Loc) : (setThr s t l).commits = s.commits := rfl
@[simp] theorem stored_setThr (s : St) (t : Nat) (l : Loc) : (setThr s t l).stored = s.stored := rfl

theorem split_join {c a : Nat} (hc : c < W32) : split (join c a) = (c, a) := by
  simp only [split, join, Prod.mk.injEq]
  constructor <;> omega

theorem join_split (j : Nat) : join (split j).1 (split j).2 = j := by
  simp only [split, join]
  omega

theorem split_fst_lt (j : Nat) : (split j).1 < W32 := Nat.mod_lt _ (by decide)

/-- induction from the end of the list (core has no `reverseRecOn`) -/
theorem snoc_induction {motive : List Nat → Prop} (nil : motive [])
    (snoc : ∀ xs x, motive xs → motive (xs ++ [x])) (xs : List Nat) : motive xs := by
  have : ∀ ys : List Nat, motive ys.reverse := by
    intro ys
    induction ys with
    | nil => exact nil
    | cons y ys ih => rw [List.reverse_cons]; exact snoc _ _ ih
  simpa using this xs.reverse

/-! ## `fold` and the list of its prefixes -/

@[simp] theorem fold_nil (avgUpd : Nat → Nat → Nat → Nat) : fold avgUpd [] = 0 := rfl

variable {avgUpd : Nat → Nat → Nat → Nat}

theorem fold_snoc (xs : List Nat) (x : Nat) :
    fold avgUpd (xs ++ [x]) = upd avgUpd (fold avgUpd xs) x := by
  unfold fold
  rw [List.foldl_append, List.foldl_cons, List.foldl_nil]

/-- every value the cell holds along the commit order `xs`: the folds of all prefixes of `xs`, oldest first -/
def prefixFolds (avgUpd : Nat → Nat → Nat → Nat) (xs : List Nat) : List Nat :=
  (List.range (xs.length + 1)).map (fun k => fold avgUpd (xs.take k))

theorem prefixFolds_nil : prefixFolds avgUpd [] = [0] := by
  simp [prefixFolds, List.range_succ]

theorem prefixFolds_snoc (xs : List Nat) (x : Nat) :
    prefixFolds avgUpd (xs ++ [x]) = prefixFolds avgUpd xs ++ [fold avgUpd (xs ++ [x])] := by
  unfold prefixFolds
  rw [List.length_append, List.length_singleton, List.range_succ (n := xs.length + 1), List.map_append]
  congr 1
  · apply List.map_congr_left
    intro k hk
    have : k ≤ xs.length := by have := List.mem_range.1 hk; omega
    rw [List.take_append_of_le_length this]
  · simp only [List.map_cons, List.map_nil]
    rw [List.take_of_length_le (by simp)]

theorem mem_prefixFolds {xs : List Nat} {j : Nat} :
    j ∈ prefixFolds avgUpd xs ↔ ∃ k, k ≤ xs.length ∧ j = fold avgUpd (xs.take k) := by
  simp [prefixFolds, Nat.lt_succ_iff, eq_comm]

theorem getLast?_prefixFolds (xs : List Nat) :
    (prefixFolds avgUpd xs).getLast? = some (fold avgUpd xs) := by
  simp [prefixFolds, List.range_succ]

/-! ## counter / pair content of a fold -/

/-- the `(counter, average)` recurrence of `inc`, without packing and without the counter reset -/
def pairFold (avgUpd : Nat → Nat → Nat → Nat) (xs : List Nat) : Nat × Nat :=
  xs.foldl (fun p x => (p.1 + 1, avgUpd p.1 p.2 x)) (0, 0)

theorem pairFold_snoc (xs : List Nat) (x : Nat) :
    pairFold avgUpd (xs ++ [x])
      = ((pairFold avgUpd xs).1 + 1, avgUpd (pairFold avgUpd xs).1 (pairFold avgUpd xs).2 x) := by
  simp [pairFold, List.foldl_append]

theorem pairFold_fst (xs : List Nat) : (pairFold avgUpd xs).1 = xs.length := by
  induction xs using snoc_induction with
  | nil => rfl
  | snoc xs x ih => rw [pairFold_snoc]; simp [ih]

theorem split_fold (xs : List Nat) (h : xs.length < W32) :
    split (fold avgUpd xs) = pairFold avgUpd xs := by
  induction xs using snoc_induction with
  | nil => simp [split, pairFold]
  | snoc xs x ih =>
    have hl : xs.length + 1 < W32 := by simpa using h
    have ih := ih (by omega)
    rw [fold_snoc, pairFold_snoc, upd, ih]
    have hne : ¬ xs.length = W32 - 1 := by omega
    simp only [pairFold_fst, hne, if_false]
    exact split_join (by omega)

theorem fold_counter (xs : List Nat) (h : xs.length < W32) :
    (split (fold avgUpd xs)).1 = xs.length := by
  rw [split_fold xs h, pairFold_fst]

/-- With a 32-bit `avgUpd`, every cell content fits the `AtomicU64` (no truncation in `join_split`), for ever
(also across the counter reset). -/
theorem fold_lt_u64 (havg : ∀ c a x, avgUpd c a x < W32) (xs : List Nat) :
    fold avgUpd xs < W32 * W32 :=
  -- every result of `upd` fits, whatever it was applied to
  List.foldlRecOn (motive := (· < W32 * W32)) xs (upd avgUpd) (by decide) fun j _ x _ => by
    have h1 := split_fst_lt j
    simp only [upd, join]
    split
    · have := havg 100 (split j).2 x; omega
    · have := havg (split j).1 (split j).2 x; omega

/-! ## the invariant -/

structure Inv (avgUpd : Nat → Nat → Nat → Nat) (s : St) : Prop where
  cellFold : s.cell = fold avgUpd s.commits
  storedEq : s.stored = prefixFolds avgUpd s.commits
  casMem   : ∀ t x cur, s.thr t = .iCas x cur → cur ∈ s.stored

theorem Inv.last {s : St} (h : Inv avgUpd s) :
    s.stored.getLast? = some s.cell := by
  rw [h.storedEq, h.cellFold, getLast?_prefixFolds]

theorem inv_init : Inv avgUpd init := by
  constructor
  · rfl
  · simp [init, prefixFolds_nil]
  · intro t x cur h; simp [init] at h

theorem inv_setThr {s : St} (h : Inv avgUpd s) (t : Nat) (l : Loc)
    (hl : ∀ x cur, l = .iCas x cur → cur ∈ s.stored) : Inv avgUpd (setThr s t l) where
  cellFold := h.cellFold
  storedEq := h.storedEq
  casMem u x cur hu := by
    by_cases hut : u = t
    · subst hut; exact hl x cur (by simpa using hu)
    · exact h.casMem u x cur (by simpa [hut] using hu)

/-! ## one action -/

/-- the state after the successful CAS of thread `t` carrying `x` -/
def commit (avgUpd : Nat → Nat → Nat → Nat) (s : St) (t x : Nat) : St :=
  setThr { s with cell := upd avgUpd s.cell x, commits := s.commits ++ [x],
                  stored := s.stored ++ [upd avgUpd s.cell x] } t (.done .unit)

/-- the moves of thread `t` under action `a` that leave the shared state alone -/
inductive Local (s : St) (t : Nat) : Act → Loc → Loc → Prop
  | inc x : Local s t (.inc t x) .idle (.iLoad x)
  | probe : Local s t (.probe t) .idle .pProbe
  | load x : Local s t (.step t) (.iLoad x) (.iCas x s.cell)
  | retry x cur : s.cell ≠ cur → Local s t (.step t) (.iCas x cur) (.iCas x s.cell)
  | probed : Local s t (.step t) .pProbe (.done (.probed (split s.cell).1 (split s.cell).2))
  | ack r : Local s t (.ack t) (.done r) .idle

theorem apply_cases (avgUpd : Nat → Nat → Nat → Nat) (s : St) (a : Act) :
    (apply avgUpd s a = s ∧ ∀ t x, a = .inc t x → s.thr t ≠ .idle) ∨
    (∃ t l l', s.thr t = l ∧ Local s t a l l' ∧ apply avgUpd s a = setThr s t l') ∨
    (∃ t x, a = .step t ∧ s.thr t = .iCas x s.cell ∧ apply avgUpd s a = commit avgUpd s t x) := by
  cases a with
  | inc t x =>
    simp only [apply]; split
    next h => exact .inr (.inl ⟨t, _, _, h, .inc x, rfl⟩)
    next h => exact .inl ⟨rfl, fun _ _ e => by cases e; exact h⟩
  | probe t =>
    simp only [apply]; split
    next h => exact .inr (.inl ⟨t, _, _, h, .probe, rfl⟩)
    next => exact .inl ⟨rfl, nofun⟩
  | ack t =>
    simp only [apply]; split
    next r h => exact .inr (.inl ⟨t, _, _, h, .ack r, rfl⟩)
    next => exact .inl ⟨rfl, nofun⟩
  | step t =>
    cases h : s.thr t <;> simp only [apply, step, h]
    case idle | done => exact .inl ⟨trivial, nofun⟩
    case iLoad x => exact .inr (.inl ⟨t, _, _, h, .load x, rfl⟩)
    case iCas x cur =>
      split
      next hc => subst hc; exact .inr (.inr ⟨t, x, rfl, h, rfl⟩)
      next hc => exact .inr (.inl ⟨t, _, _, h, .retry x cur hc, rfl⟩)
    case pProbe => exact .inr (.inl ⟨t, _, _, h, .probed, rfl⟩)

theorem inv_commit {s : St} (h : Inv avgUpd s) (t x : Nat) :
    Inv avgUpd (commit avgUpd s t x) where
  cellFold := by simp [commit, fold_snoc, h.cellFold]
  storedEq := by simp [commit, prefixFolds_snoc, fold_snoc, h.cellFold, h.storedEq]
  casMem u y c hu := by
    by_cases hut : u = t <;> simp [commit, hut] at hu
    exact List.mem_append_left _ (h.casMem u y c hu)

theorem inv_apply (s : St) (a : Act) (h : Inv avgUpd s) :
    Inv avgUpd (apply avgUpd s a) := by
  rcases apply_cases avgUpd s a with ⟨e, -⟩ | ⟨t, l, l', -, hl, e⟩ | ⟨t, x, -, -, e⟩ <;> rw [e]
  · exact h
  · -- a thread arrives at `iCas` with the value it has just read
    exact inv_setThr h t l' (by cases hl <;> intro x cur e <;> cases e <;> exact List.mem_of_getLast? h.last)
  · exact inv_commit h t x

theorem inv_run {avgUpd : Nat → Nat → Nat → Nat} (s : St) (as : List Act) (h : Inv avgUpd s) :
    Inv avgUpd (run avgUpd s as) :=
  List.foldlRecOn as _ h fun s h a _ => inv_apply s a h

theorem reachable_inv {s : St} (h : Reachable avgUpd s) : Inv avgUpd s := by
  obtain ⟨as, rfl⟩ := h
  exact inv_run _ as inv_init

theorem reachable_apply {avgUpd : Nat → Nat → Nat → Nat} {s : St} (h : Reachable avgUpd s) (a : Act) :
    Reachable avgUpd (apply avgUpd s a) := by
  obtain ⟨as, rfl⟩ := h
  exact ⟨as ++ [a], by simp [run, List.foldl_append]⟩

end Mutiny.IncAvg
