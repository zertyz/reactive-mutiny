import Mutiny.Model.Exec

/-!
# Lemmas on the executor model `Mutiny/Model/Exec.lean` (for C06, C11, C12)

The counters are a fold, put in closed form (`accountFrom_eq`).  What an accepted event does is said once, as a relation
(`Step`, over `settle_eq`); every fact about runs is then an induction along the log (`runEv_ind`) over the cases of
`Step`: the invariant `Inv`, conservation of the accepted ids (`perm_run`), the ghost fields as functions of the log
(`ghost_run`), and that nothing is processed after the close callback (`Done`; for two executors in one log:
`seq_split`).
A new event enters `Step`, and by hand the readings of the log that end in a wildcard: `acceptedIds`,
`acceptedBeforeClose`, `processedIds`, `isSignal`, `isProcessing` (which alone no lemma ties to the machine: with a
wrong default `seq_split` still proves, and says less).
-/

namespace Mutiny.Exec

/-! ### accounting -/

def accountFrom (v : Variant) (timeout : Bool) (c0 : Counts) (items : List Outcome) : Counts :=
  items.foldl (fun c o => c.add (classify v timeout o)) c0

theorem account_eq (v : Variant) (timeout : Bool) (items : List Outcome) :
    account v timeout items = accountFrom v timeout {} items := rfl

/-- a futures timeout is configured and the variant has item futures -/
def timesOut (v : Variant) (timeout : Bool) : Bool := timeout && (v = .futFallible || v = .fut)

theorem timesOut_true {v : Variant} {timeout : Bool} :
    timesOut v timeout = true ↔ timeout = true ∧ (v = .futFallible ∨ v = .fut) := by
  cases v <;> cases timeout <;> simp [timesOut]

theorem timesOut_false {v : Variant} {timeout : Bool} :
    timesOut v timeout = false ↔ timeout = false ∨ v = .fallible ∨ v = .plain := by
  cases v <;> cases timeout <;> simp [timesOut]

theorem accountFrom_eq (v : Variant) (timeout : Bool) (items : List Outcome) (c0 : Counts) :
    accountFrom v timeout c0 items =
      { ok := c0.ok + (items.filter fun o => (classify v timeout o).1 = .ok).length
        failed := c0.failed + (items.filter fun o => (classify v timeout o).1 = .failed).length
        timedOut := c0.timedOut + (items.filter fun o => (classify v timeout o).1 = .timedOut).length
        onErr := c0.onErr + (items.filter fun o => (classify v timeout o).2).length } := by
  induction items generalizing c0 with
  | nil => simp [accountFrom]
  | cons o rest ih =>
    rw [accountFrom, List.foldl_cons, ← accountFrom, ih]
    rcases hc : classify v timeout o with ⟨eff, b⟩
    cases eff <;> cases b <;> simp [Counts.add, hc] <;> omega

theorem length_filter_effect {α : Type} (f : α → Effect) (l : List α) :
    (l.filter fun x => f x = .ok).length + (l.filter fun x => f x = .failed).length +
      (l.filter fun x => f x = .timedOut).length = l.length := by
  induction l with
  | nil => rfl
  | cons x l ih => simp only [List.filter_cons]; cases f x <;> simp <;> omega

/-- `classify` depends on the variant and the timeout only through `timesOut` -/
theorem classify_eq (v : Variant) (timeout : Bool) (o : Outcome) :
    classify v timeout o =
      match o, timesOut v timeout with
      | .ok, _ => (.ok, false)
      | .err, _ => (.failed, true)
      | .slow, true | .slowErr, true => (.timedOut, false)
      | .slow, false => (.ok, false)
      | .slowErr, false => (.failed, true) := by
  cases o <;> cases h : timesOut v timeout <;> simp_all [classify, timesOut]

theorem account_counts (v : Variant) (timeout : Bool) (items : List Outcome) :
    account v timeout items =
      { ok := (items.filter fun o => o = .ok ∨ (o = .slow ∧ timesOut v timeout = false)).length
        failed := (items.filter fun o => o = .err ∨ (o = .slowErr ∧ timesOut v timeout = false)).length
        timedOut := (items.filter fun o => (o = .slow ∨ o = .slowErr) ∧ timesOut v timeout = true).length
        onErr := (items.filter fun o => o = .err ∨ (o = .slowErr ∧ timesOut v timeout = false)).length } := by
  simp only [account_eq, accountFrom_eq, Counts.mk.injEq]
  refine ⟨?_, ?_, ?_, ?_⟩
  all_goals
    refine (Nat.zero_add _).trans (congrArg _ (List.filter_congr fun o _ => ?_))
    rw [classify_eq]
    cases o <;> cases timesOut v timeout <;> simp

/-! ### event machine: `settle`, one step, runs -/

/-- `settle` only sets two flags: the streams are told to end once a close is under way (or an end signal was given) and
    nothing is pending; the stream is dropped once cancelled, nothing pending and (`for_each`) nothing in flight -/
theorem settle_eq (c : Cfg) (s : St) :
    settle c s =
      { s with
        cancelled := s.cancelled || ((s.closing || s.signalled) && s.pending.isEmpty)
        dropped := s.dropped || ((s.cancelled || ((s.closing || s.signalled) && s.pending.isEmpty)) &&
          s.pending.isEmpty && (decide (c.limit > 1) || s.inflight.isEmpty)) } := by
  cases s
  simp only [settle]
  split <;> split <;> simp_all <;> grind

variable {c : Cfg} {s s' : St} {e : Ev} {es : List Ev}

def acceptSt (s : St) (i : Nat) : St :=
  { s with pending := s.pending ++ [i],
           beforeClose := if s.closing || s.signalled then s.beforeClose else s.beforeClose ++ [i] }

/-- what an accepted event does (`Step.of_stepEv`): statements say `stepEv … = some s'`, proofs
    `cases Step.of_stepEv hs` -/
inductive Step (c : Cfg) (s : St) : Ev → St → Prop
  | accepted i : Step c s (.accepted i) (settle c (acceptSt s i))
  | yieldFut i rest : s.pending = i :: rest → s.dropped = false → c.futures = true → s.inflight.length < max c.limit 1 →
      Step c s (.yielded i) (settle c { s with pending := rest, inflight := s.inflight ++ [i] })
  | yieldNow i rest : s.pending = i :: rest → s.dropped = false → c.futures = false →
      Step c s (.yielded i) (settle c { s with pending := rest, finished := s.finished ++ [i] })
  | finished i : i ∈ s.inflight →
      Step c s (.finished i) (settle c { s with inflight := s.inflight.erase i, finished := s.finished ++ [i] })
  | closeCalled : Step c s .closeCalled (settle c { s with closing := true, closes := s.closes + 1 })
  | closeReturned : 0 < s.closes → s.closing = true → s.dropped = true →
      Step c s .closeReturned { s with closed := true, closes := s.closes - 1 }
  | callback : s.dropped = true → s.inflight = [] → s.callbacks = 0 → Step c s .callback { s with callbacks := 1 }
  | cancelAll : Step c s .cancelAll (settle c { s with signalled := true })
  | closeExpired : 0 < s.closes → Step c s .closeExpired (settle c { s with signalled := true, closes := s.closes - 1 })

theorem Step.of_stepEv (h : stepEv c s e = some s') : Step c s e s' := by
  cases e <;> simp only [stepEv] at h
  case yielded i =>
    split at h
    next j rest hp =>
      split at h
      next hg =>
        obtain ⟨rfl, hd, hl⟩ := hg
        split at h <;> cases h
        next hf => exact .yieldFut j rest hp (by simpa using hd) hf (by simpa [hf] using hl)
        next hf => exact .yieldNow j rest hp (by simpa using hd) (by simpa using hf)
      next => cases h
    next => cases h
  case accepted | closeCalled | cancelAll => cases h; constructor
  case finished | closeReturned | callback | closeExpired =>
    -- one guard each, which holds what the constructor asks for
    split at h <;> cases h
    constructor <;> simp_all

theorem runEv_nil (c : Cfg) (s : St) : runEv c s [] = some s := rfl

theorem runEv_cons (h : runEv c s (e :: es) = some s') :
    ∃ s1, stepEv c s e = some s1 ∧ runEv c s1 es = some s' := by
  simp only [runEv] at h
  split at h
  next s1 h1 => exact ⟨s1, h1, h⟩
  next => cases h

theorem runEv_append {a b : List Ev} (h : runEv c s (a ++ b) = some s') :
    ∃ s1, runEv c s a = some s1 ∧ runEv c s1 b = some s' := by
  induction a generalizing s with
  | nil => exact ⟨s, rfl, h⟩
  | cons e es ih =>
    obtain ⟨s1, h1, h2⟩ := runEv_cons (by simpa using h)
    obtain ⟨s2, h3, h4⟩ := ih h2
    exact ⟨s2, by simp only [runEv, h1, h3], h4⟩

/-- induction along a run, with the log in view (`induction h using runEv_ind`) -/
theorem runEv_ind {motive : (s : St) → (es : List Ev) → (s' : St) → runEv c s es = some s' → Prop}
    (nil : ∀ s, motive s [] s rfl)
    (cons : ∀ {s e s1 es s'} (h1 : stepEv c s e = some s1) (h2 : runEv c s1 es = some s'),
      motive s1 es s' h2 → motive s (e :: es) s' (by simp only [runEv, h1, h2])) :
    ∀ {s : St} {es : List Ev} {s' : St} (h : runEv c s es = some s'), motive s es s' h
  | _, [], _, h => by cases h; exact nil _
  | _, _ :: _, _, h => by
    obtain ⟨s1, h1, h2⟩ := runEv_cons h
    exact cons h1 h2 (runEv_ind nil cons h2)

/-! ### the invariant -/

structure Inv (c : Cfg) (s : St) : Prop where
  /-- an event accepted before the close call is pending, in flight or finished -/
  sub : ∀ i ∈ s.beforeClose, i ∈ s.pending ∨ i ∈ s.inflight ∨ i ∈ s.finished
  /-- the streams are only told to end (with nothing pending) inside a close or after an end signal, and after
      everything accepted before the close / the signal left the channel -/
  canc : s.cancelled = true → (s.closing = true ∨ s.signalled = true) ∧ ∀ i ∈ s.beforeClose, i ∈ s.inflight ∨ i ∈ s.finished
  cl : 0 < s.closes → s.closing = true
  /-- the stream is dropped only after the cancel; with `for_each` (limit ≤ 1) nothing is in flight from then on -/
  drop : s.dropped = true → s.cancelled = true ∧ (c.limit ≤ 1 → s.inflight = [])
  /-- a close returned only after the stream was dropped (`cl` is about the calls still outstanding) -/
  clos : s.closed = true → s.dropped = true ∧ s.closing = true
  nofut : c.futures = false → s.inflight = []
  cb : s.callbacks ≤ 1
  lim : s.inflight.length ≤ max c.limit 1

theorem inv_init (c : Cfg) : Inv c {} := by
  constructor <;> simp

theorem inv_settle (h : Inv c s) : Inv c (settle c s) := by
  rw [settle_eq]
  refine { h with canc := fun hc => ?_, drop := fun hd => ?_,
                  clos := fun hcl => ⟨by simp [(h.clos hcl).1], (h.clos hcl).2⟩ }
  · simp only [Bool.or_eq_true, Bool.and_eq_true, List.isEmpty_iff] at hc
    rcases hc with hc | ⟨hcs, hp⟩
    · exact h.canc hc
    · exact ⟨hcs, fun i hi => by simpa [hp] using h.sub i hi⟩
  · simp only [Bool.or_eq_true, Bool.and_eq_true, List.isEmpty_iff, decide_eq_true_eq] at hd ⊢
    rcases hd with hd | ⟨⟨hcn, -⟩, hl⟩
    · exact ⟨.inl (h.drop hd).1, (h.drop hd).2⟩
    · exact ⟨hcn, fun _ => hl.resolve_left (by omega)⟩

/-- ids only move forward (`pending → inflight → finished`) and no flag changes: the invariant survives, given that
    nothing is in flight afterwards where the invariant says so now (`hnil`), and the limit -/
theorem Inv.advance (h : Inv c s) {P I F : List Nat}
    (hp : ∀ j ∈ s.pending, j ∈ P ∨ j ∈ I ∨ j ∈ F) (hi : ∀ j ∈ s.inflight, j ∈ I ∨ j ∈ F)
    (hf : ∀ j ∈ s.finished, j ∈ F)
    (hnil : s.inflight = [] → s.dropped = true ∨ c.futures = false → I = []) (hlen : I.length ≤ max c.limit 1) :
    Inv c { s with pending := P, inflight := I, finished := F } where
  sub j hj := by
    rcases h.sub j hj with h1 | h1 | h1
    · exact hp j h1
    · exact .inr (hi j h1)
    · exact .inr (.inr (hf j h1))
  canc hcn := ⟨(h.canc hcn).1, fun j hj => (h.canc hcn).2 j hj |>.elim (hi j) fun h1 => .inr (hf j h1)⟩
  cl := h.cl
  drop hd := ⟨(h.drop hd).1, fun hl => hnil ((h.drop hd).2 hl) (.inl hd)⟩
  clos := h.clos
  nofut hf' := hnil (h.nofut hf') (.inr hf')
  cb := h.cb
  lim := hlen

theorem inv_step (h : Inv c s) (hs : stepEv c s e = some s') : Inv c s' := by
  cases Step.of_stepEv hs with
  | accepted i =>
    -- the new id is pending; it joins `beforeClose` only while no end signal was given
    refine inv_settle { h with sub := ?_, canc := ?_ } <;> simp only [acceptSt]
    · intro j hj
      have : j ∈ s.beforeClose ∨ j = i := by split at hj <;> simp_all
      rcases this with hj | rfl
      · exact (h.sub j hj).imp_left (List.mem_append_left _)
      · exact .inl (by simp)
    · intro hcn
      have hcs : (s.closing || s.signalled) = true := by simpa using (h.canc hcn).1
      simpa [hcs] using h.canc hcn
  | yieldFut i rest hp hd hf hl =>
    refine inv_settle (h.advance (P := rest) (I := s.inflight ++ [i]) (F := s.finished) ?_ ?_ ?_
      (fun _ h' => by simp [hd, hf] at h') ?_)
    · grind
    · grind
    · simp
    · simp; omega
  | yieldNow i rest hp hd hf =>
    refine inv_settle (h.advance (P := rest) (I := s.inflight) (F := s.finished ++ [i]) ?_ ?_ ?_ (fun h' _ => h') h.lim)
    · grind
    · grind
    · grind
  | finished i hi =>
    refine inv_settle (h.advance (P := s.pending) (I := s.inflight.erase i) (F := s.finished ++ [i]) ?_ ?_ ?_ ?_ ?_)
    · grind
    · intro j hj
      by_cases hji : j = i
      · exact .inr (by simp [hji])
      · exact .inl ((List.mem_erase_of_ne hji).2 hj)
    · grind
    · intro h' _; simp [h']
    · have := List.length_erase_le (a := i) (l := s.inflight); have := h.lim; omega
  | closeCalled =>
    exact inv_settle { h with canc := fun hcn => ⟨.inl rfl, (h.canc hcn).2⟩, cl := fun _ => rfl,
                              clos := fun hcl => ⟨(h.clos hcl).1, rfl⟩ }
  | closeReturned _ hc hd => exact { h with cl := fun _ => hc, clos := fun _ => ⟨hd, hc⟩ }
  | callback => exact { h with cb := Nat.le_refl 1 }
  | cancelAll => exact inv_settle { h with canc := fun hcn => ⟨.inr rfl, (h.canc hcn).2⟩ }
  | closeExpired hcs =>
    exact inv_settle { h with canc := fun hcn => ⟨.inr rfl, (h.canc hcn).2⟩, cl := fun _ => h.cl hcs }

theorem inv_runFrom (hi : Inv c s) (h : runEv c s es = some s') : Inv c s' := by
  induction h using runEv_ind with
  | nil s => exact hi
  | cons h1 _ ih => exact ih (inv_step hi h1)

theorem inv_run {c : Cfg} {es : List Ev} {s : St} (h : runEv c {} es = some s) : Inv c s :=
  inv_runFrom (inv_init c) h

theorem closeOk_iff (s : St) :
    closeOk s = true ↔ (s.closed = true → ∀ i ∈ s.beforeClose, i ∈ s.finished) := by
  cases h : s.closed <;> simp [closeOk, h, List.all_eq_true]

theorem inv_dropped_idle (h : Inv c s) (hd : s.dropped = true) (hin : s.inflight = []) :
    ∀ i ∈ s.beforeClose, i ∈ s.finished := by
  intro i hi
  rcases (h.canc (h.drop hd).1).2 i hi with h1 | h1
  · rw [hin] at h1; cases h1
  · exact h1

theorem inv_close_sequential (h : Inv c s) (hc : c.limit ≤ 1 ∨ c.futures = false)
    (hcl : s.closed = true) :
    (∀ i ∈ s.beforeClose, i ∈ s.finished) ∧ s.inflight = [] ∧ s.dropped = true ∧ s.cancelled = true ∧
      s.closing = true :=
  have hd := (h.clos hcl).1
  have hin : s.inflight = [] := hc.elim (h.drop hd).2 h.nofut
  ⟨inv_dropped_idle h hd hin, hin, hd, (h.drop hd).1, (h.clos hcl).2⟩

/-! ### the log: conservation of the accepted ids, the ghost fields -/

def acceptedIds : List Ev → List Nat
  | [] => []
  | .accepted i :: es => i :: acceptedIds es
  | _ :: es => acceptedIds es

def held (s : St) : List Nat := s.pending ++ s.inflight ++ s.finished

theorem held_settle (c : Cfg) (s : St) : held (settle c s) = held s := by simp [held, settle_eq]

theorem acceptedIds_cons (e : Ev) (es : List Ev) : acceptedIds (e :: es) = acceptedIds [e] ++ acceptedIds es := by
  cases e <;> simp [acceptedIds]

theorem mem_acceptedIds {i : Nat} {es : List Ev} : i ∈ acceptedIds es ↔ .accepted i ∈ es := by
  induction es with
  | nil => simp [acceptedIds]
  | cons e es ih => rw [acceptedIds_cons, List.mem_append, ih]; cases e <;> simp [acceptedIds]

theorem perm_step (hs : stepEv c s e = some s') :
    (held s').Perm (held s ++ acceptedIds [e]) := by
  cases Step.of_stepEv hs with
  | accepted i =>
    rw [held_settle, List.perm_iff_count]; intro a
    simp only [held, acceptSt, acceptedIds, List.count_append]; omega
  | yieldFut i rest hp | yieldNow i rest hp =>
    rw [held_settle, List.perm_iff_count]; intro a
    simp only [held, hp, acceptedIds, List.count_append, List.count_cons, List.count_nil]; omega
  | finished i hi =>
    rw [held_settle, List.perm_iff_count]; intro a
    simp only [held, acceptedIds, List.count_append, List.count_cons, List.count_nil, List.count_erase]
    by_cases hia : i = a
    · have := List.count_pos_iff.2 (hia ▸ hi); simp [hia]; omega
    · simp [hia]
  | _ => simp [settle_eq, held, acceptedIds]

theorem perm_run (h : runEv c s es = some s') :
    (held s').Perm (held s ++ acceptedIds es) := by
  induction h using runEv_ind with
  | nil s => simp [acceptedIds]
  | cons h1 _ ih =>
    rw [acceptedIds_cons, ← List.append_assoc]
    exact ih.trans (List.Perm.append_right _ (perm_step h1))

/-- ids accepted before the first `closeCalled` / end signal of the log -/
def acceptedBeforeClose : List Ev → List Nat
  | [] => []
  | .closeCalled :: _ => []
  | .cancelAll :: _ => []
  | .closeExpired :: _ => []
  | .accepted i :: es => i :: acceptedBeforeClose es
  | _ :: es => acceptedBeforeClose es

/-- ids whose processing completed, in order: `finished i`, and `yielded i` when items are not futures -/
def processedIds (c : Cfg) : List Ev → List Nat
  | [] => []
  | .finished i :: es => i :: processedIds c es
  | .yielded i :: es => if c.futures then processedIds c es else i :: processedIds c es
  | _ :: es => processedIds c es

def isSignal : Ev → Bool
  | .closeCalled | .cancelAll | .closeExpired => true
  | _ => false

theorem ghost_step (hs : stepEv c s e = some s') :
    s'.finished = s.finished ++ processedIds c [e] ∧
    s'.beforeClose = s.beforeClose ++ (if s.closing || s.signalled then [] else acceptedBeforeClose [e]) ∧
    (s'.closing || s'.signalled) = (s.closing || s.signalled || isSignal e) ∧
    s'.callbacks = s.callbacks + [e].count .callback := by
  cases Step.of_stepEv hs with
  | accepted i =>
    cases hc : (s.closing || s.signalled) <;>
      simp [settle_eq, acceptSt, processedIds, acceptedBeforeClose, isSignal, hc]
  | _ => simp [settle_eq, processedIds, acceptedBeforeClose, isSignal, *]

theorem processedIds_cons (c : Cfg) (e : Ev) (es : List Ev) :
    processedIds c (e :: es) = processedIds c [e] ++ processedIds c es := by
  cases e with
  | yielded i => simp only [processedIds]; split <;> rfl
  | _ => rfl

theorem acceptedBeforeClose_cons (e : Ev) (es : List Ev) :
    acceptedBeforeClose (e :: es) = if isSignal e then [] else acceptedBeforeClose [e] ++ acceptedBeforeClose es := by
  cases e <;> rfl

theorem acceptedBeforeClose_signal {e : Ev} (h : isSignal e = true) : acceptedBeforeClose [e] = [] := by
  cases e <;> first | rfl | cases h

theorem ghost_run (h : runEv c s es = some s') :
    s'.finished = s.finished ++ processedIds c es ∧
    s'.beforeClose = s.beforeClose ++ (if s.closing || s.signalled then [] else acceptedBeforeClose es) ∧
    (s'.closing || s'.signalled) = (s.closing || s.signalled || es.any isSignal) ∧
    s'.callbacks = s.callbacks + es.count .callback := by
  induction h using runEv_ind with
  | nil s => simp [processedIds, acceptedBeforeClose]
  | @cons s e _ es _ h1 _ ih =>
    obtain ⟨a1, a2, a3, a4⟩ := ghost_step h1
    obtain ⟨b1, b2, b3, b4⟩ := ih
    rw [b1, b2, b3, b4, a1, a2, a3, a4, processedIds_cons c e es, acceptedBeforeClose_cons e es, List.any_cons,
      List.count_cons (l := es)]
    cases s.closing || s.signalled <;> cases hsig : isSignal e <;>
      simp [acceptedBeforeClose_signal, hsig, List.count_cons] <;> omega

/-! ### after the close callback (C12) -/

/-- the state from the close callback on: stream dropped, nothing in flight, callback ran -/
def Done (s : St) : Prop := s.dropped = true ∧ s.inflight = [] ∧ s.callbacks = 1

theorem done_step (hd : Done s) (hs : stepEv c s e = some s') :
    Done s' ∧ (∀ i, e ≠ .yielded i) ∧ (∀ i, e ≠ .finished i) ∧ e ≠ .callback := by
  obtain ⟨h1, h2, h3⟩ := hd
  -- `yielded` needs `dropped = false`, `finished` an id in flight, `callback` `callbacks = 0`; the other steps leave
  -- the three fields alone (`settle` never clears `dropped`)
  cases Step.of_stepEv hs <;> simp_all [Done, settle_eq, acceptSt]

theorem done_run (h : runEv c s es = some s') (hd : Done s) :
    Done s' ∧ ∀ e ∈ es, (∀ i, e ≠ .yielded i) ∧ (∀ i, e ≠ .finished i) ∧ e ≠ .callback := by
  induction h using runEv_ind with
  | nil s => exact ⟨hd, by simp⟩
  | cons h1 _ ih =>
    obtain ⟨d1, hne⟩ := done_step hd h1
    obtain ⟨d2, hall⟩ := ih d1
    exact ⟨d2, List.forall_mem_cons.2 ⟨hne, hall⟩⟩

theorem run_callback_split {es₁ es₂ : List Ev} {s0 s : St}
    (h : runEv c s0 (es₁ ++ .callback :: es₂) = some s) :
    (∃ s1, runEv c s0 es₁ = some s1 ∧ s1.dropped = true ∧ s1.inflight = [] ∧ s1.callbacks = 0) ∧ Done s ∧
    ∀ e ∈ es₂, (∀ i, e ≠ .yielded i) ∧ (∀ i, e ≠ .finished i) ∧ e ≠ .callback := by
  obtain ⟨s1, h1, h2⟩ := runEv_append h
  obtain ⟨s2, h3, h4⟩ := runEv_cons h2
  cases Step.of_stepEv h3 with
  | callback a b d => exact ⟨⟨s1, h1, a, b, d⟩, done_run h4 ⟨a, b, rfl⟩⟩

/-- the log of one of the two executors (`false` = the old one, `true` = the new one) inside a combined log -/
def proj (b : Bool) (comb : List (Bool × Ev)) : List Ev := (comb.filter (fun x => x.1 == b)).map (·.2)

def isProcessing : Ev → Bool
  | .yielded _ | .finished _ => true
  | _ => false

theorem proj_append (b : Bool) (xs ys : List (Bool × Ev)) : proj b (xs ++ ys) = proj b xs ++ proj b ys := by
  simp [proj]

theorem mem_proj {b : Bool} {e : Ev} {comb : List (Bool × Ev)} (h : (b, e) ∈ comb) : e ∈ proj b comb := by
  simp only [proj, List.mem_map, List.mem_filter]
  exact ⟨(b, e), ⟨h, by simp⟩, rfl⟩

theorem seq_split {pre post : List (Bool × Ev)}
    (hacc : accepts c (proj false (pre ++ (false, .callback) :: post)) = true) :
    ∀ e, (false, e) ∈ post → isProcessing e = false := by
  intro e he
  rw [proj_append] at hacc
  have hcons : proj false ((false, Ev.callback) :: post) = .callback :: proj false post := by simp [proj]
  rw [hcons] at hacc
  simp only [accepts, Option.isSome_iff_exists] at hacc
  obtain ⟨s, hs⟩ := hacc
  have := (run_callback_split hs).2.2 e (mem_proj he)
  cases e <;> simp_all [isProcessing]

/-! ### status word and latch (C12) -/

/-- `report_scheduled_to_finish`: an unconditional `store(ScheduledToFinish)` on the status word (proof-side definition,
    not part of the replayed model) -/
def reportScheduled (_ : Status) : Status := .scheduledToFinish

theorem latchFires_eq (n k : Nat) : latchFires n k = if 1 ≤ n ∧ n ≤ k then 1 else 0 := by
  induction k with
  | zero => simp only [latchFires]; split <;> omega
  | succ k ih =>
    simp only [latchFires, ih, beq_iff_eq]
    repeat' split
    all_goals omega

/-- the latch counter after `k` calls of `latch`, starting from `n` -/
def latchRemaining (n : Nat) : Nat → Nat
  | 0 => n
  | k + 1 => (latch (latchRemaining n k)).1

theorem latchRemaining_eq (n k : Nat) : latchRemaining n k = n - k := by
  induction k with
  | zero => rfl
  | succ k ih => simp only [latchRemaining, latch, ih]; omega

end Mutiny.Exec
