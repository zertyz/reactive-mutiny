import Mutiny.Proofs.RingInv

/-!
# What the invariant of the `Ring` model gives

The statements of C01 / C02 / C16 for every state that satisfies `Inv` (the property theorems in `Props/` read them at a
`ReachableX` state): which micro-steps are the linearization points of the abstract queue `abs`, where each result comes
from (what the histories hold is `Fifo.mem_del`, `Fifo.no_loss`).  Then solo calls, each as one state transformation
(C16, C20), and `Frame`: the ring as a component of the zero-copy composition.
-/

namespace Mutiny.Ring

/-! ## what an action leaves alone -/

/-- `s'` has the counters and the history of `s`; threads and buffer may differ.  Every cell defaults to unchanged
    (`rfl`). -/
structure SameCells (s s' : St) : Prop where
  N : s'.N = s.N := by rfl
  head : s'.head = s.head := by rfl
  tail : s'.tail = s.tail := by rfl
  enqTail : s'.enqTail = s.enqTail := by rfl
  deqHead : s'.deqHead = s.deqHead := by rfl
  accepted : s'.accepted = s.accepted := by rfl
  delivered : s'.delivered = s.delivered := by rfl

theorem apply_sameCells (s : St) (a : Act) (h : ∀ t, a ≠ .step t) : SameCells s (apply s a) := by
  cases a
  case step t => exact absurd rfl (h t)
  all_goals (simp only [apply]; split <;> exact {})

theorem step_N (s : St) (t : Nat) : (step s t).N = s.N := by
  unfold step
  split <;> (repeat' split) <;> rfl

theorem apply_N (s : St) (a : Act) : (apply s a).N = s.N := by
  cases a
  case step t => exact step_N s t
  all_goals exact (apply_sameCells s _ (by nofun)).N

theorem run_N (s : St) (as : List Act) : (run s as).N = s.N :=
  List.foldlRecOn as apply (motive := fun x => x.N = s.N) rfl fun x hx a _ => (apply_N x a).trans hx

theorem reachable_N {n : Nat} {s : St} (h : Reachable n s) : s.N = n := by
  obtain ⟨as, rfl⟩ := h; rw [run_N]; rfl

theorem step_buf (s : St) (t : Nat) :
    (step s t).buf = match s.thr t with
      | .pWrite v id _ => (setBuf s (id % s.N) v).buf
      | _ => s.buf := by
  cases hl : s.thr t <;> simp only [step, hl] <;> (repeat' split) <;> rfl

/-! ## the abstract queue -/

theorem abs_length {s : St} (h : Inv s) : (abs s).length = s.tail - s.head := h.shared.fifo.length_drop

theorem abs_eq_nil_iff {s : St} (h : Inv s) : abs s = [] ↔ s.head = s.tail := h.shared.fifo.drop_eq_nil

/-- `abs` reads `head` and `accepted` only: `s'` is `enqSt s v` (in `abs_deq`: `deqSt s t x`) up to threads, buffer and
    claim counters, as on the right of a solo run equation; both hypotheses default to `rfl` -/
theorem abs_enq {s s' : St} {v : Nat} (h : Inv s) (hh : s'.head = s.head := by rfl)
    (ha : s'.accepted = s.accepted ++ [v] := by rfl) : abs s' = abs s ++ [v] := by
  rw [abs, hh, ha]; exact h.shared.fifo.drop_snoc v

theorem abs_deq {s s' : St} {x : Nat} {rest : List Nat} (hx : abs s = x :: rest) (hh : s'.head = s.head + 1 := by rfl)
    (ha : s'.accepted = s.accepted := by rfl) : abs s' = rest := by
  rw [abs, hh, ha, ← List.tail_drop]; exact congrArg List.tail hx

theorem abs_cons {s : St} (h : Inv s) {x : Nat} {rest : List Nat} (hx : abs s = x :: rest) :
    s.head < s.tail ∧ s.buf (s.head % s.N) = x := by
  have hne : s.head < s.tail := Nat.lt_of_le_of_ne h.hHT fun e => by simp [(abs_eq_nil_iff h).2 e] at hx
  exact ⟨hne, List.head_eq_of_cons_eq ((h.shared.fifo.drop_cons hne).symm.trans hx)⟩

/-! ## abstraction: which micro-steps are the linearization points -/

/-- a micro-step leaves the four public cells alone, or is the successful `tail` CAS of a publisher (by value, or by
    index: then on its own sequence number), or the successful `head` CAS of a consumer; in each case the whole new state -/
theorem step_lin {s : St} (h : Inv s) (t : Nat) :
    ((step s t).accepted = s.accepted ∧ (step s t).tail = s.tail ∧ (step s t).head = s.head ∧
      (step s t).delivered = s.delivered)
    ∨ (∃ v id len, s.thr t = .pPublish v id len ∧ s.tail = id ∧ s.buf (id % s.N) = v ∧
        step s t = setThr (enqSt s v) t (.pLen id))
    ∨ (∃ id idx, s.thr t = .rPub id idx id ∧ s.tail = id ∧ idx = id % s.N ∧
        step s t = setThr (enqSt s (s.buf idx)) t (.rLen id))
    ∨ (∃ id v, s.thr t = .cRelease id v ∧ s.head = id ∧ s.accepted[id]? = some v ∧
        step s t = setThr (deqSt s t v) t (.done (.got v))) := by
  cases hl : s.thr t with
  | pPublish v id len =>
    by_cases he : s.tail = id
    · exact .inr (.inl ⟨v, id, len, rfl, he, h.wrOk t v id len hl, by simp only [step, hl, enqSt, he, if_true]⟩)
    · exact .inl (by simp only [step, hl, he, if_false, and_self])
  | rPub id idx g =>
    by_cases he : s.tail = g
    · obtain ⟨rfl, hidx, e⟩ := rPub_success h hl he
      exact .inr (.inr (.inl ⟨g, idx, rfl, he, hidx, e⟩))
    · exact .inl (by simp only [step, hl, he, if_false]; split <;> exact ⟨rfl, rfl, rfl, rfl⟩)
  | cRelease id v =>
    by_cases he : s.head = id
    · exact .inr (.inr (.inr ⟨id, v, rfl, he, h.relOk t id v hl, by simp only [step, hl, deqSt, he, if_true]⟩))
    · exact .inl (by simp only [step, hl, he, if_false, and_self])
  | _ =>
    refine .inl ?_
    generalize hs : step s t = s'
    simp only [step, hl] at hs
    (repeat' split at hs) <;> subst hs <;> exact ⟨rfl, rfl, rfl, rfl⟩

theorem step_abs {s : St} (h : Inv s) (t : Nat) :
    abs (step s t) = abs s
    ∨ (∃ v id len, s.thr t = .pPublish v id len ∧ abs (step s t) = abs s ++ [v] ∧ (abs s).length < s.N
          ∧ (step s t).thr t = .pLen id)
    ∨ (∃ id idx g, s.thr t = .rPub id idx g ∧ abs (step s t) = abs s ++ [s.buf idx] ∧ (abs s).length < s.N
          ∧ (step s t).thr t = .rLen g)
    ∨ (∃ id v, s.thr t = .cRelease id v ∧ abs s = v :: abs (step s t) ∧ (step s t).thr t = .done (.got v)) := by
  have hlen := abs_length h; have := h.hHT
  rcases step_lin h t with ⟨e1, _, e3, _⟩ | ⟨v, id, len, hl, he, _, e⟩ | ⟨id, idx, hl, he, _, e⟩ | ⟨id, v, hl, he, hv, e⟩
  · exact .inl (by rw [abs, e1, e3]; rfl)
  · have := h.pOk t id (by rw [hl]; rfl)
    exact .inr (.inl ⟨v, id, len, hl, e ▸ abs_enq h, by omega, by rw [e]; simp⟩)
  · have := h.pOk t id (by rw [hl]; rfl)
    exact .inr (.inr (.inl ⟨id, idx, id, hl, e ▸ abs_enq h, by omega, by rw [e]; simp⟩))
  · subst he
    exact .inr (.inr (.inr ⟨_, v, hl, by rw [e, abs, List.drop_eq_getElem?_toList_append, hv]; rfl, by rw [e]; simp⟩))

theorem accept_only_by_success {s : St} (h : Inv s) (t : Nat) :
    (step s t).accepted = s.accepted
      ∨ (∃ v id len, s.thr t = .pPublish v id len ∧ s.tail = id ∧ s.buf (id % s.N) = v ∧
            (step s t).accepted = s.accepted ++ [v] ∧ (step s t).thr t = .pLen id ∧
            ∃ l, (step (step s t) t).thr t = .done (.sent l))
      ∨ (∃ id idx g, s.thr t = .rPub id idx g ∧ s.tail = g ∧ g = id ∧ idx = id % s.N ∧
            (step s t).accepted = s.accepted ++ [s.buf idx] ∧
            (step s t).thr t = .rLen g ∧ ∃ l, (step (step s t) t).thr t = .done (.pubIdx (some l))) := by
  rcases step_lin h t with ⟨e1, _⟩ | ⟨v, id, len, hl, he, hv, e⟩ | ⟨id, idx, hl, he, hi, e⟩ | ⟨_, _, hl, _, _, e⟩
  · exact .inl e1
  · exact .inr (.inl ⟨v, id, len, hl, he, hv, by rw [e]; rfl, by rw [e]; simp,
      _, by rw [e]; simp [step]; rfl⟩)
  · exact .inr (.inr ⟨id, idx, id, hl, he, rfl, hi, by rw [e]; rfl, by rw [e]; simp,
      _, by rw [e]; simp [step]; rfl⟩)
  · exact .inl (by rw [e]; rfl)

theorem sent_len {s : St} (h : Inv s) {t id : Nat} (ht : s.thr t = .pLen id) :
    (step s t).thr t = .done (.sent (max 1 (id + 1 - s.head))) ∧ max 1 (id + 1 - s.head) ≤ s.N ∧ id < s.tail := by
  have := h.lenOk t id ht; have := h.hTN; have := h.npos
  exact ⟨by simp [step, ht], by omega, by omega⟩

/-! ## where results come from -/

/-- a program point `l` that no call or acknowledgement leads to (`hl`: by `cases` when `l` is a constructor none of
    `Enters` ends in) is reached by a step of the thread itself -/
theorem apply_thr_origin {s : St} {a : Act} {u : Nat} {l : Loc} (h : (apply s a).thr u = l)
    (hl : ∀ l₀, ¬ Enters s.N u a l₀ l) : s.thr u = l ∨ (a = .step u ∧ (step s u).thr u = l) := by
  rcases apply_thr s a u with e | rfl | he
  · exact .inl (e ▸ h)
  · exact .inr ⟨rfl, h⟩
  · exact absurd (h ▸ he) (hl _)

/-! `full` is answered only if all `N` sequence numbers from `head` were taken when the same call loaded `head`
(with `Inv.recOk`: the ghost of every `pRecede` is `true`) -/

theorem pLoadHead_full {s : St} (hi : Inv s) (t v id : Nat) (rsv : Bool) (ht : s.thr t = .pLoadHead v id rsv)
    (hf : ¬ (id - s.head < s.N)) :
    (step s t).thr t = .pRecede v id rsv true ∧
    ∀ k, s.head ≤ k → k < s.head + s.N → k < s.tail ∨ ∃ u, u ≠ t ∧ holdsP (s.thr u) k := by
  have me := hi.pRange t id (by rw [ht]; rfl)
  have := hi.hHT
  refine ⟨by simp only [step, ht, hf, if_false, thr_setThr_self]; rw [decide_eq_true (by omega)], fun k hk1 hk2 => ?_⟩
  by_cases hk : k < s.tail
  · exact .inl hk
  · -- `k` is claimed and not published; its holder is not `t`, whose own number is beyond the window
    obtain ⟨u, hu⟩ := hi.pCover k (by omega) (by omega)
    refine .inr ⟨u, ?_, hu⟩
    rintro rfl
    have := holdsP_unique hu (show holdsP (s.thr u) id by rw [ht]; rfl); omega

theorem done_full_origin {s : St} (hi : Inv s) (t : Nat) (a : Act) (ha : (apply s a).thr t = .done .full) :
    s.thr t = .done .full ∨ (a = .step t ∧ ∃ v id rsv, s.thr t = .pRecede v id rsv true ∧ s.enqTail = id + 1) := by
  rcases apply_thr_origin ha (fun _ he => by cases he) with h' | ⟨h1, h2⟩
  · exact .inl h'
  · rcases step_origin s t h2 with h' | ⟨v, id, rsv, w, e1, e2⟩
    · exact .inl h'
    · obtain rfl := hi.recOk t v id rsv w e1
      exact .inr ⟨h1, v, id, rsv, e1, e2⟩

/-- witness run of the C02 and C18 examples: two producers fill a ring of size 2 (thread 1 claims number 0 and publishes
    first: `abs = [6, 5]`), a third finds it full -/
def fullRun : List Act :=
  [.send 0 5, .send 1 6, .step 1, .step 0, .step 0, .step 1, .step 1, .step 0, .step 1, .step 0, .step 1,
   .send 2 7, .step 2, .step 2]

/-! `empty` is answered only if the abstract queue was empty when the same call loaded `head` -/

theorem cChkHead_step {s : St} (hi : Inv s) (t : Nat) (ht : s.thr t = .cChkHead) :
    (step s t).thr t = .cChkTail s.head true ↔ abs s = [] := by
  simp [step, ht, abs_eq_nil_iff hi]

theorem cChkTail_witness {s : St} (hi : Inv s) {t hd : Nat} {w : Bool} (ht : s.thr t = .cChkTail hd w)
    (he : s.tail = hd) : w = true := by
  -- had the queue not been empty at the `head` load (`w = false`), `chkOk` would still know `hd < tail`
  have := (hi.chkOk t hd w ht).2
  cases w
  · have := this rfl; omega
  · rfl

theorem cChkTail_origin {s : St} (hi : Inv s) (t : Nat) (a : Act) (hd : Nat) (w : Bool)
    (ha : (apply s a).thr t = .cChkTail hd w) :
    s.thr t = .cChkTail hd w ∨ (a = .step t ∧ s.thr t = .cChkHead ∧ hd = s.head ∧ (w = true ↔ abs s = [])) := by
  refine (apply_thr_origin ha (fun _ he => by cases he)).elim .inl fun ⟨h1, h2⟩ => ?_
  exact (step_origin s t h2).imp_right fun ⟨h2, h3, h4⟩ =>
    ⟨h1, h2, h3, by rw [h4, abs_eq_nil_iff hi]; simp⟩

theorem done_empty_origin {s : St} (hi : Inv s) (t : Nat) (a : Act) (ha : (apply s a).thr t = .done .empty) :
    s.thr t = .done .empty ∨ (a = .step t ∧ ∃ hd, s.thr t = .cChkTail hd true ∧ s.tail = hd) := by
  rcases apply_thr_origin ha (fun _ he => by cases he) with h' | ⟨h1, h2⟩
  · exact .inl h'
  · rcases step_origin s t h2 with h' | ⟨hd, w, e1, e2⟩
    · exact .inl h'
    · obtain rfl := cChkTail_witness hi e1 e2
      exact .inr ⟨h1, hd, e1, e2⟩

/-! ## solo executions (C16) -/

theorem deqHead_eq_head {s : St} (h : Inv s) (hc : ∀ u, cid (s.thr u) = none) : s.deqHead = s.head := by
  have := h.consumers.le_threads (T := 0) fun t _ => hc t
  have := h.hHD; omega

theorem idle_all {s : St} {t : Nat} (hothers : ∀ u, u ≠ t → s.thr u = .idle) (ht : s.thr t = .idle) (u : Nat) :
    s.thr u = .idle :=
  if e : u = t then e ▸ ht else hothers u e

/-- a thread holds at most one claim per side (named in `Ring32`, where the window condition is derived from it) -/
theorem _root_.Mutiny.Ring32.claims_le_threads (s : St) (h : Inv s) (T : Nat) (hT : ∀ t, T ≤ t → s.thr t = .idle) :
    s.enqTail ≤ s.tail + T ∧ s.deqHead ≤ s.head + T :=
  ⟨h.producers.le_threads fun t ht => by rw [hT t ht]; rfl, h.consumers.le_threads fun t ht => by rw [hT t ht]; rfl⟩

theorem quiescent_counters {s : St} (h : Inv s) (hid : ∀ t, s.thr t = .idle) :
    s.enqTail = s.tail ∧ s.deqHead = s.head := by
  have := Ring32.claims_le_threads s h 0 fun t _ => hid t
  have := h.hTE; have := h.hHD
  omega

/-- the six actions of a solo `send` (call, claim, load `head`, write, publish, load `head` again for the length) -/
def sendSolo (t v : Nat) : List Act := [.send t v, .step t, .step t, .step t, .step t, .step t]

def recvSolo (t : Nat) : List Act := [.recv t, .step t, .step t, .step t, .step t]

/-! A call that no claim of its own side overlaps (`enqTail = tail`, resp. `deqHead = head`; the other threads are
arbitrary), as one state transformation. -/

theorem run_sendSolo_sent (s : St) (t v : Nat) (ht : s.thr t = .idle) (he : s.enqTail = s.tail)
    (hroom : s.tail - s.head < s.N) :
    run s (sendSolo t v) =
      setThr (enqSt { setBuf s (s.tail % s.N) v with enqTail := s.enqTail + 1 } v) t
        (.done (.sent (max 1 (s.tail + 1 - s.head)))) := by
  simp [sendSolo, run, apply, step, ht, he, hroom, setThr, setBuf, enqSt]
  funext u; split <;> rfl

theorem run_sendSolo_full (s : St) (t v : Nat) (ht : s.thr t = .idle) (he : s.enqTail = s.tail)
    (hfull : ¬ s.tail - s.head < s.N) :
    run s (sendSolo t v) = setThr s t (.done .full) ∧
    run s [.send t v, .step t, .step t, .step t] = setThr s t (.done .full) := by
  constructor <;> (simp [sendSolo, run, apply, step, ht, he, hfull, setThr]; funext u; split <;> rfl)

theorem run_recvSolo_got (s : St) (t : Nat) (ht : s.thr t = .idle) (he : s.deqHead = s.head) (hne : s.head < s.tail) :
    run s (recvSolo t) =
      setThr (deqSt { s with deqHead := s.deqHead + 1 } t (s.buf (s.head % s.N))) t
        (.done (.got (s.buf (s.head % s.N)))) := by
  simp [recvSolo, run, apply, step, ht, he, hne, setThr, deqSt]
  funext u; split <;> rfl

theorem run_recvSolo_empty (s : St) (t : Nat) (ht : s.thr t = .idle) (he : s.deqHead = s.head) (hemp : s.head = s.tail) :
    run s (recvSolo t ++ [.step t]) = setThr s t (.done .empty) := by
  simp [recvSolo, run, apply, step, ht, he, hemp, setThr]
  funext u; split <;> rfl

theorem step_noop (s : St) (t : Nat) (h : tagOf (s.thr t) = none) : step s t = s := by
  cases hl : s.thr t <;> rw [hl] at h <;> cases h <;> simp only [step, hl]

theorem noCancel_sendSolo (t v : Nat) : NoCancel (sendSolo t v) := by
  intro u; simp [sendSolo]

theorem noCancel_recvSolo (t : Nat) : NoCancel (recvSolo t ++ [.step t, .ack t]) := by
  intro u; simp [recvSolo]

theorem setThr_setThr (s : St) (t : Nat) (l l' : Loc) : setThr (setThr s t l) t l' = setThr s t l' := by
  simp only [setThr]; congr; funext u; split <;> rfl

theorem ack_done (s : St) (t : Nat) (r : Res) : apply (setThr s t (.done r)) (.ack t) = setThr s t .idle := by
  simp [apply, setThr_setThr]

/-- how every solo call from a quiescent state ends; `e` is one of the state equations above, `hx` is then `rfl` -/
theorem reachableX_solo {n : Nat} {s x : St} {t : Nat} {r : Res} {as : List Act} (hr : ReachableX n s)
    (hid : ∀ u, s.thr u = .idle) (hc : NoCancel as) (e : run s as = setThr x t (.done r)) (hx : x.thr = s.thr) :
    (∀ u, u ≠ t → (setThr x t (.done r)).thr u = .idle) ∧ ReachableX n (setThr x t (.done r)) ∧
    ReachableX n (apply (setThr x t (.done r)) (.ack t)) ∧
    ∀ u, (apply (setThr x t (.done r)) (.ack t)).thr u = .idle := by
  have hok : RunOk s (as ++ [.ack t]) := runOk_of_noCancel s _ (noCan_of_idle s hid) fun u hm =>
    (List.mem_append.1 hm).elim (hc u) (by simp)
  refine ⟨fun u hu => ?_, e ▸ hr.run as ((runOk_append s as _).1 hok).1, ?_, fun u => ?_⟩
  · rw [thr_setThr, if_neg hu, hx]; exact hid u
  · have := hr.run _ hok; rwa [run_append, e] at this
  · rw [ack_done, thr_setThr, hx]; split
    · rfl
    · exact hid u

def fillSolo (t : Nat) : St → List Nat → St × List Loc
  | s, [] => (s, [])
  | s, v :: vs =>
    let s1 := run s (sendSolo t v)
    let r := fillSolo t (apply s1 (.ack t)) vs
    (r.1, s1.thr t :: r.2)

theorem fillSolo_spec {n : Nat} (hn : 0 < n) (t : Nat) (vs : List Nat) (s : St) (hr : ReachableX n s)
    (hid : ∀ u, s.thr u = .idle) (hk : (abs s).length + vs.length ≤ s.N) :
    (fillSolo t s vs).2 = (List.range' ((abs s).length + 1) vs.length).map (fun l => Loc.done (.sent l)) ∧
    abs (fillSolo t s vs).1 = abs s ++ vs ∧ (∀ u, (fillSolo t s vs).1.thr u = .idle) ∧
    ReachableX n (fillSolo t s vs).1 ∧ (fillSolo t s vs).1.N = s.N := by
  induction vs generalizing s with
  | nil => simp [fillSolo, hid, hr]
  | cons v vs ih =>
    have hi := reachable_inv hn hr
    have hlen := abs_length hi
    simp only [List.length_cons] at hk
    have e := run_sendSolo_sent s t v (hid t) (quiescent_counters hi hid).1 (by omega)
    obtain ⟨-, -, hr', hid'⟩ := reachableX_solo hr hid (noCancel_sendSolo t v) e rfl
    simp only [fillSolo]
    rw [ack_done] at hr' hid'; rw [e, ack_done]
    have habs : abs (setThr (enqSt { setBuf s (s.tail % s.N) v with enqTail := s.enqTail + 1 } v) t .idle) =
        abs s ++ [v] := abs_enq hi
    obtain ⟨i1, i2, i3, i4, i5⟩ := ih _ hr' hid' (by rw [habs]; simp; omega)
    refine ⟨?_, by rw [i2, habs]; simp, i3, i4, i5⟩
    rw [i1, habs]; simp [List.range', hlen]; omega

/-! ## a ring as a component of the zero-copy composition: what the actions of one thread leave untouched -/

/-- `r'` arises from `r` by actions of thread `t` alone that keep the ring invariant -/
structure Frame (t : Nat) (r r' : St) : Prop where
  N : r'.N = r.N
  inv : Inv r → Inv r'
  thr : ∀ u, u ≠ t → r'.thr u = r.thr u

theorem Frame.refl (t : Nat) (r : St) : Frame t r r := ⟨rfl, id, fun _ _ => rfl⟩

/-- the only step that can break `Inv` is a cancel CAS, and whether `t` is at one is a fact about `t`'s own location -/
theorem Frame.step {t : Nat} {r : St} (hc : ∀ id idx g, r.thr t ≠ .rCan id idx g) : Frame t r (step r t) :=
  ⟨step_N r t, fun h => inv_apply r (.step t) h fun _ id idx g e ht _ => by cases e; exact absurd ht (hc id idx g),
   step_thr_ne r t⟩

/-- a call or an acknowledgement `a` of the same thread extends a frame.  Both side conditions are decided by the shape of
    `a`, which every caller gives as a literal: hence the defaults. -/
theorem Frame.call {t : Nat} {r r' : St} (h : Frame t r r') (a : Act) (ha : ∀ u, a ≠ .step u := by simp)
    (hat : a.thread = t := by rfl) : Frame t r (apply r' a) :=
  ⟨(apply_N r' a).trans h.N, fun hi => inv_apply r' a (h.inv hi) (canExact_of_not_step ha),
   fun u hu => (apply_thr_ne r' a u (hat ▸ hu)).trans (h.thr u hu)⟩

@[simp] theorem abs_call (s : St) (a : Act) (h : ∀ t, a ≠ .step t) : abs (apply s a) = abs s := by
  rw [abs, (apply_sameCells s a h).head, (apply_sameCells s a h).accepted]; rfl

theorem ack_thr {s : St} {t : Nat} {r : Res} (h : s.thr t = .done r) : (apply s (.ack t)).thr t = .idle := by
  simp [apply, h]
theorem send_thr {s : St} {t : Nat} (v : Nat) (h : s.thr t = .idle) : (apply s (.send t v)).thr t = .pFetch v false := by
  simp [apply, h]
theorem recv_thr {s : St} {t : Nat} (h : s.thr t = .idle) : (apply s (.recv t)).thr t = .cFetch := by
  simp [apply, h]

end Mutiny.Ring
