import Mutiny.Model.U32
import Mutiny.Proofs.Basic

/-!
# The `u32` arithmetic of the rings (`Mutiny/Model/U32.lean`) against free-running `Nat` counters

Single operations (wrapping `-` / `+`, a CAS, the signed test) agree with `Nat` when the operands lie in a window.  The two
index-based calls `pubIdx32`, `canIdx32` are one loop, `guessLoop`: started at the slot index it re-guesses at most once,
into the lap of the counter, so its result is `guess2`, a CAS on the counter value itself iff that value has the index.
-/

namespace Mutiny.U32

theorem wrap_lt (x : Nat) : wrap x < M32 := Nat.mod_lt _ (by decide)

theorem wsub_lt (a b : Nat) : wsub a b < M32 := by unfold wsub; exact Nat.mod_lt _ (by decide)

theorem wsub_wrap (a b : Nat) (h1 : b ≤ a) (h2 : a - b < M32) : wsub (wrap a) (wrap b) = a - b := by
  unfold wsub wrap; omega

theorem wsub_wrap_neg (a b : Nat) (h1 : a < b) (h2 : b - a < M32) : wsub (wrap a) (wrap b) = M32 - (b - a) := by
  unfold wsub wrap; omega

theorem wadd_wrap_one (a : Nat) : wadd (wrap a) 1 = wrap (a + 1) := by
  unfold wadd wrap; omega

/-- a CAS on the images decides what the CAS on the counters decides, whichever of the two is ahead -/
theorem wrap_eq_iff_near (a b : Nat) (h1 : a < b + M32) (h2 : b < a + M32) : wrap a = wrap b ↔ a = b := by
  unfold wrap; omega

/-- the `reloaded_enqueuer_tail.wrapping_sub(1)` of the cancel -/
theorem wsub_wrap_one (e : Nat) (h : 1 ≤ e) : wsub (wrap e) 1 = wrap (e - 1) := by
  unfold wsub wrap; omega

/-- the cancel's CAS `enq32 == g32 + 1`, for a free-running `enqueuer_tail = e` -/
theorem cas_succ_iff (e g : Nat) (h : 1 ≤ e) (hg : g < M32) : wrap e = wadd g 1 ↔ wrap (e - 1) = g := by
  unfold wadd wrap; omega

/-- the same CAS on the residue `e = enq32`: it compares `enq32.wrapping_sub(1)` with the guess -/
theorem cas_succ_iff_wsub (e g : Nat) (he : e < M32) (hg : g < M32) : e = wadd g 1 ↔ wsub e 1 = g := by
  unfold wadd wsub; omega

theorem mod_wrap (x N : Nat) (hN : M32 % N = 0) : wrap x % N = x % N :=
  Nat.mod_mod_of_dvd x (Nat.dvd_of_mod_eq_zero hN)

theorem posI32_iff (x : Nat) : posI32 x = true ↔ 0 < x ∧ x < 2147483648 := by
  simp [posI32]

theorem hasItem_wrap (tail id : Nat) (h1 : tail ≤ id + 2147483647) (h2 : id ≤ tail + 2147483648) :
    hasItem32 (wrap tail) (wrap id) = decide (id < tail) := by
  rw [hasItem32, Bool.eq_iff_iff, posI32_iff, decide_eq_true_eq]
  unfold wsub wrap; omega

/-! ## the lap arithmetic of the re-guess -/

theorem lap_bound {x N : Nat} (hx : x < M32) (hN : M32 % N = 0) : (x / N) * N + N ≤ M32 := by
  have hM : M32 = (M32 / N) * N := (Nat.div_mul_cancel (Nat.dvd_of_mod_eq_zero hN)).symm
  have hlt : x / N < M32 / N := Nat.div_lt_of_lt_mul (by rw [Nat.mul_comm, ← hM]; exact hx)
  have : (x / N + 1) * N ≤ (M32 / N) * N := Nat.mul_le_mul_right N hlt
  rwa [Nat.add_mul, Nat.one_mul, ← hM] at this

theorem cmul_lap {x N : Nat} (hx : x < M32) (hpos : 0 < N) (hN : M32 % N = 0) :
    cmul (x / N) N = some ((x / N) * N) := by
  have := lap_bound hx hN
  unfold cmul; rw [if_pos (by omega)]

theorem cadd_lap {idx x N : Nat} (hx : x < M32) (hidx : idx < N) (hN : M32 % N = 0) :
    cadd idx ((x / N) * N) = some (idx + (x / N) * N) := by
  have := lap_bound hx hN
  unfold cadd; rw [if_pos (by omega)]

theorem reguess_mod {id lap N : Nat} : (id % N + lap * N) % N = id % N := by
  rw [Nat.add_mul_mod_self_right, Nat.mod_mod]

theorem reguess_div (idx q N : Nat) (h : idx < N) : (idx + q * N) / N = q := by
  have hN : 0 < N := by omega
  rw [Nat.add_mul_div_right _ _ hN, Nat.div_eq_of_lt h, Nat.zero_add]

theorem reguess_eq_iff (idx x N : Nat) : x = idx + (x / N) * N ↔ x % N = idx := by
  have := Nat.div_add_mod x N
  rw [Nat.mul_comm] at this
  constructor <;> intro e <;> omega

/-! ## one iteration of the re-guess loops: into the lap of the reloaded counter `x`, or give up; never a panic

Kernel note: never let a definitional unfolding meet `wsub e 1` with a symbolic `e` (`e + 2^32` makes the kernel's unary
`Nat.ble` run 2^32 steps); the cancel's lemmas first rewrite `wsub e 1` to an abstract `x`. -/

theorem pubReguess32_eq (idx g x N : Nat) (hx : x < M32) (hidx : idx < N) (hN : M32 % N = 0) :
    pubReguess32 idx g x N = if x / N > g / N then some (some (idx + x / N * N)) else some none := by
  unfold pubReguess32
  rw [cmul_lap hx (by omega) hN]; simp only [cadd_lap hx hidx hN]

theorem canReguess32_eq (idx g e N x : Nat) (hw : wsub e 1 = x) (hx : x < M32) (hidx : idx < N) (hN : M32 % N = 0) :
    canReguess32 idx g e N = if x / N > g / N then some (some (idx + x / N * N)) else some none := by
  unfold canReguess32
  rw [hw]
  exact pubReguess32_eq idx g x N hx hidx hN

/-! ## the whole calls: try `idx`, re-guess once into the lap of the counter, give up -/

/-- both index-based loops: try the guess; on a miss re-guess (`some (some g')`), give up (`some none`) or panic (`none`) -/
def guessLoop (hit : Nat → Prop) [DecidablePred hit] (re : Nat → Option (Option Nat)) : Nat → Nat → Option (Option Nat)
  | 0, _ => some none
  | fuel + 1, g =>
    if hit g then some (some g)
    else match re g with
         | none => none
         | some none => some none
         | some (some g') => guessLoop hit re fuel g'

theorem pubIdx32_eq_loop (idx t N fuel g : Nat) :
    pubIdx32 idx t N fuel g = guessLoop (fun g => t = g) (fun g => pubReguess32 idx g t N) fuel g := by
  induction fuel generalizing g with
  | zero => rfl
  | succ k ih => simp only [pubIdx32, guessLoop, ih]; rfl

theorem canIdx32_eq_loop (r : Nat → Nat → Nat → Nat → Option (Option Nat)) (idx e N fuel g : Nat) :
    canIdx32 r idx e N fuel g = guessLoop (fun g => e = wadd g 1) (fun g => r idx g e N) fuel g := by
  induction fuel generalizing g with
  | zero => rfl
  | succ k ih => simp only [canIdx32, guessLoop, ih]; rfl

theorem canIdx32_panic (r : Nat → Nat → Nat → Nat → Option (Option Nat)) (idx e N fuel g : Nat) (h : e ≠ wadd g 1)
    (hr : r idx g e N = none) : canIdx32 r idx e N (fuel + 1) g = none := by
  rw [canIdx32, if_neg h, hr]

/-- the common result: CAS on the counter value itself iff its index is `idx` -/
def guess2 (idx x N : Nat) : Option (Option Nat) := if x % N = idx then some (some x) else some none

/-- on the image of a counter less than `N` away from the caller's sequence number, `guess2` hits iff the counter IS
    that number -/
theorem guess2_wrap (y id N : Nat) (h1 : y < id + N) (h2 : id < y + N) (hN : M32 % N = 0) :
    guess2 (id % N) (wrap y) N = if y = id then some (some (wrap id)) else some none := by
  unfold guess2
  rw [mod_wrap y N hN]
  by_cases he : y = id
  · rw [if_pos he, if_pos (he ▸ rfl), he]
  · rw [if_neg he, if_neg fun e => he (eq_of_mod_eq_of_lt_add e h1 h2)]

/-- started at the index, with hits and laps decided by the counter value `x`: at most one re-guess, into the lap of `x`.
    Fuel 3 is that of the C15 statements; two iterations are used: a second miss is already in the lap of `x` and gives up. -/
theorem guessLoop_eq {hit : Nat → Prop} [DecidablePred hit] {re : Nat → Option (Option Nat)} {idx x N : Nat}
    (hx : x < M32) (hidx : idx < N) (hN : M32 % N = 0) (hhit : ∀ g, g < M32 → (hit g ↔ x = g))
    (hre : ∀ g, re g = if x / N > g / N then some (some (idx + x / N * N)) else some none) :
    guessLoop hit re 3 idx = guess2 idx x N := by
  have hM : N ≤ M32 := Nat.le_of_dvd (by decide) (Nat.dvd_of_mod_eq_zero hN)
  have hlb := lap_bound hx hN
  have hi := hhit idx (by omega)
  have hg := hhit (idx + x / N * N) (by omega)
  have hdiv := reguess_div idx (x / N) N hidx
  have hd0 : idx / N = 0 := Nat.div_eq_of_lt hidx
  have hre' := reguess_eq_iff idx x N
  by_cases h1 : x = idx
  · simp [guessLoop, guess2, hi, h1, Nat.mod_eq_of_lt hidx]
  · by_cases hlap : x / N > 0
    · by_cases h2 : x = idx + x / N * N
      · simp [guessLoop, guess2, hre, hi, hd0, h1, hlap, ← h2, hre'.mp h2, (hhit x hx).mpr rfl]
      · have h3 : ¬ x % N = idx := fun e => h2 (hre'.mpr e)
        simp [guessLoop, guess2, hre, hi, hg, hd0, hdiv, h1, hlap, h2, h3]
    · have h0 : x / N = 0 := Nat.eq_zero_of_not_pos hlap
      have : ¬ x % N = idx := fun e => h1 (by have := hre'.mpr e; rwa [h0, Nat.zero_mul, Nat.add_zero] at this)
      simp [guessLoop, guess2, hre, hi, hd0, h1, h0, this]

theorem pubIdx32_eq (idx t N : Nat) (ht : t < M32) (hidx : idx < N) (hN : M32 % N = 0) :
    pubIdx32 idx t N 3 idx = guess2 idx t N := by
  rw [pubIdx32_eq_loop]
  exact guessLoop_eq ht hidx hN (fun _ _ => Iff.rfl) fun g => pubReguess32_eq idx g t N ht hidx hN

theorem canIdx32_eq (idx e N x : Nat) (he : e < M32) (hw : wsub e 1 = x) (hidx : idx < N) (hN : M32 % N = 0) :
    canIdx32 canReguess32 idx e N 3 idx = guess2 idx x N := by
  have hx : x < M32 := hw ▸ wsub_lt e 1
  rw [canIdx32_eq_loop]
  exact guessLoop_eq hx hidx hN (fun g hg => hw ▸ cas_succ_iff_wsub e g he hg)
    fun g => canReguess32_eq idx g e N x hw hx hidx hN

end Mutiny.U32
