import Mutiny.Proofs.RingProps
import Mutiny.Proofs.U32

/-!
# The reservation API (C08), blocking and solo progress (C20), the queue API (C18) on the `Ring` model

When producer-side calls are sequential (`SeqP`: at most one thread inside one) every holder is admitted while a cancel
runs (`AllAdmitted`), so the cancel CAS is exact (`CanExact`) and the run stays inside `ReachableX`; `seqCheck` decides
`SeqP` along a concrete run.  Then: the slot of an admitted holder is private, what a cancel step does, and a publisher
behind a parked reservation stays where it is.
-/

namespace Mutiny.Ring

/-! ## exactness of publish / cancel by index -/

/-- producer-side *call* points: inside a call of `send` / `reserve` / `pubIdx` / `canIdx`, before its publication or
    return (`pLen` / `rLen`, after the publication, hold no sequence number and are left out) -/
def callP : Loc → Prop
  | .pFetch _ _ | .pLoadHead _ _ _ | .pRecede _ _ _ _ | .pWrite _ _ _ | .pPublish _ _ _ | .rPub _ _ _ | .rCan _ _ _ => True
  | _ => False

/-- producer-side calls are sequential: at most one thread is inside a producer-side call (other producer-side holders
    are parked reservations `rHold` / `rRet`; consumers are unrestricted) -/
def SeqP (s : St) : Prop := ∀ t u, callP (s.thr t) → callP (s.thr u) → t = u

def startsP : Act → Prop
  | .send _ _ | .reserve _ | .pubIdx _ | .canIdx _ => True
  | _ => False

theorem passedP_or_callP {l : Loc} {k : Nat} (h : holdsP l k) : passedP l k ∨ callP l := by
  cases l <;> simp_all [holdsP, passedP, callP]

/-- while the one call in progress is a cancel, every other holder is parked, hence admitted -/
theorem allAdmitted_of_seqP {s : St} (hs : SeqP s) {t id idx g : Nat} (ht : s.thr t = .rCan id idx g) :
    AllAdmitted s := fun u k hu => (passedP_or_callP hu).elim (fun h => h) fun hc => by
  obtain rfl := hs u t hc (by rw [ht]; trivial)
  rw [ht] at hu ⊢
  exact hu

theorem canExact_of_seqP (s : St) (a : Act) (h : Inv s) (hs : SeqP s) : CanExact s a := by
  intro t id idx g ha ht he
  exact canExact_of_allAdmitted s a h (allAdmitted_of_seqP hs ht) t id idx g ha ht he

def RunSeqP (s : St) : List Act → Prop
  | [] => True
  | a :: as => SeqP s ∧ RunSeqP (apply s a) as

theorem runOk_of_runSeqP (s : St) (as : List Act) (h : Inv s) (hs : RunSeqP s as) : RunOk s as := by
  induction as generalizing s with
  | nil => trivial
  | cons a as ih =>
    have hex := canExact_of_seqP s a h hs.1
    exact ⟨hex, ih _ (inv_apply s a h hex) hs.2⟩

theorem reachableX_of_runSeqP {n : Nat} (hn : 0 < n) (as : List Act) (hs : RunSeqP (init n) as) :
    ReachableX n (run (init n) as) :=
  ⟨as, runOk_of_runSeqP _ _ (inv_init n hn) hs, rfl⟩

theorem step_callP_origin {s : St} {t : Nat} (h : callP ((step s t).thr t)) : callP (s.thr t) := by
  -- the sweep of `step_origin`; old and new program point are then constructors, and `callP` computes on both
  cases hl : s.thr t <;> simp only [step, hl] at h <;> (repeat' split at h) <;>
    (try simp only [thr_setThr, ↓reduceIte, hl] at h) <;>
    trivial

theorem apply_callP_origin {s : St} {a : Act} {u : Nat} (h : callP ((apply s a).thr u)) :
    callP (s.thr u) ∨ (startsP a ∧ u = a.thread) := by
  rcases apply_thr s a u with e | rfl | he
  · exact .inl (e ▸ h)
  · exact .inl (step_callP_origin h)
  · generalize s.thr u = l₀, (apply s a).thr u = l at he h ⊢
    cases he <;> first | exact .inr ⟨trivial, rfl⟩ | exact h.elim

theorem seqP_apply (s : St) (a : Act) (h : SeqP s) (ha : startsP a → ∀ u, ¬ callP (s.thr u)) : SeqP (apply s a) := by
  intro t u ht hu
  rcases apply_callP_origin ht with ht' | ⟨hs, rfl⟩ <;> rcases apply_callP_origin hu with hu' | ⟨hs', rfl⟩
  · exact h t u ht' hu'
  · exact absurd ht' (ha hs' t)
  · exact absurd hu' (ha hs u)
  · rfl

/-! ## the slot of an admitted holder is private -/

theorem apply_buf_other {s : St} (h : Inv s) {t id : Nat} (hp : passedP (s.thr t) id) (a : Act) (hu : a.thread ≠ t) :
    (apply s a).buf (id % s.N) = s.buf (id % s.N) := by
  cases a <;> simp only [Act.thread] at hu
  -- the two writers, `pWrite` and `fill`, write the slot of an admitted number of their own
  case step u =>
    show (step s u).buf _ = _
    rw [step_buf]; split
    · next v id' _ hl => exact if_neg (h.slot_ne hp (by rw [hl]; rfl) (Ne.symm hu))
    · rfl
  case fill u v =>
    simp only [apply]; split
    · next id' hl => exact if_neg (h.slot_ne hp (by rw [hl]; rfl) (Ne.symm hu))
    · rfl
  all_goals (simp only [apply]; split <;> rfl)

theorem apply_buf_own (s : St) (t : Nat) (a : Act) (ha : a.thread = t) (hf : ∀ u v, a ≠ .fill u v)
    (hw : a = .step t → ∀ v id len, s.thr t ≠ .pWrite v id len) : (apply s a).buf = s.buf := by
  cases a <;> simp only [Act.thread] at ha <;> subst ha
  case fill u v => exact absurd rfl (hf _ v)
  case step u =>
    show (step s u).buf = s.buf
    rw [step_buf]; split
    · next v id len hl => exact absurd hl (hw rfl v id len)
    · rfl
  all_goals (simp only [apply]; split <;> rfl)

theorem fill_buf (s : St) (t id v : Nat) (ht : s.thr t = .rHold id) : (apply s (.fill t v)).buf (id % s.N) = v := by
  simp [apply, ht]

/-! ## cancel by index -/

theorem rCan_success {s : St} {t id idx g : Nat} (ht : s.thr t = .rCan id idx g) (he : s.enqTail = g + 1) :
    step s t = setThr { s with enqTail := g } t (.done (.canIdx true)) := by
  simp [step, ht, he]

/-- the next claim takes the number a successful cancel gave back -/
theorem pFetch_step {s : St} {u v : Nat} {rsv : Bool} (hu : s.thr u = .pFetch v rsv) :
    (step s u).thr u = .pLoadHead v s.enqTail rsv := by
  simp [step, hu]

theorem rCan_sameCells {s : St} {t id idx g : Nat} (ht : s.thr t = .rCan id idx g) :
    SameCells { s with enqTail := (step s t).enqTail } (step s t) ∧ (step s t).buf = s.buf := by
  simp only [step, ht]; (repeat' split) <;> exact ⟨{}, rfl⟩

/-- a cancel step that does not succeed re-guesses into the lap of `enqTail - 1`, or gives up if the guess was there -/
theorem rCan_fail {s : St} {t id idx g : Nat} (ht : s.thr t = .rCan id idx g) (he : s.enqTail ≠ g + 1) :
    (step s t).enqTail = s.enqTail ∧
    (step s t).thr t = if (s.enqTail - 1) / s.N > g / s.N then .rCan id idx (idx + ((s.enqTail - 1) / s.N) * s.N)
      else .rRet id (.canIdx false) := by
  simp only [step, ht, he, if_false]
  split <;> exact ⟨rfl, thr_setThr_self ..⟩

theorem rCan_out_of_order {s : St} (h : Inv s) (hadm : AllAdmitted s) {t id idx g : Nat}
    (ht : s.thr t = .rCan id idx g) (hhi : ∃ u k, holdsP (s.thr u) k ∧ id < k) :
    s.enqTail ≠ g + 1 ∧ (step s t).enqTail = s.enqTail ∧ holdsP ((step s t).thr t) id ∧
    ((step s t).thr t = .rRet id (.canIdx false) ∨ (step (step s t) t).thr t = .rRet id (.canIdx false)) := by
  have ⟨e1, e2⟩ := h.idxOk t id idx g (.inr ht)
  -- no guess with the caller's slot index is `enqTail - 1`: that number would be the caller's, below the higher claim
  have miss : ∀ g', g' % s.N = id % s.N → s.enqTail ≠ g' + 1 := fun g' hg he => by
    obtain ⟨u, k, hu, hk⟩ := hhi
    have := h.last_of_slot hadm (t := t) (by rw [ht]; rfl) he hg
    have := h.pRange u k hu; omega
  have hne := miss g (e2.trans e1)
  obtain ⟨f1, f2⟩ := rCan_fail ht hne
  refine ⟨hne, f1, by rw [f2]; split <;> rfl, ?_⟩
  split at f2
  · -- second own step: same `enqTail`, and the guess is in the lap of `enqTail - 1` now
    have g2 := (rCan_fail f2 (by rw [f1]; exact miss _ (by rw [e1]; exact U32.reguess_mod))).2
    rw [step_N, f1, U32.reguess_div _ _ _ (e1 ▸ Nat.mod_lt _ h.npos), if_neg (Nat.lt_irrefl _)] at g2
    exact .inr g2
  · exact .inl f2

/-! ## an executable criterion for `RunSeqP` (used for non-vacuity examples) -/

def callPb : Loc → Bool
  | .pFetch _ _ | .pLoadHead _ _ _ | .pRecede _ _ _ _ | .pWrite _ _ _ | .pPublish _ _ _ | .rPub _ _ _ | .rCan _ _ _ => true
  | _ => false

theorem callPb_iff (l : Loc) : callPb l = true ↔ callP l := by
  cases l <;> simp [callPb, callP]

theorem eq_of_filter_length_le_one {p : Nat → Bool} {l : List Nat} (hlen : (l.filter p).length ≤ 1) {a b : Nat}
    (ha : a ∈ l) (hb : b ∈ l) (pa : p a = true) (pb : p b = true) : a = b := by
  have ma : a ∈ l.filter p := List.mem_filter.mpr ⟨ha, pa⟩
  have mb : b ∈ l.filter p := List.mem_filter.mpr ⟨hb, pb⟩
  match l.filter p, hlen, ma, mb with
  | [x], _, ma, mb => rw [List.mem_singleton.mp ma, List.mem_singleton.mp mb]
  | _ :: _ :: _, hlen, _, _ => simp at hlen

/-- only threads of `ts` act, and in every state at most one of them is inside a producer-side call -/
def seqCheck (ts : List Nat) : St → List Act → Bool
  | _, [] => true
  | s, a :: as =>
    decide ((ts.filter (fun t => callPb (s.thr t))).length ≤ 1) && ts.contains a.thread && seqCheck ts (apply s a) as

theorem runSeqP_of_check (ts : List Nat) (s : St) (as : List Act)
    (hin : ∀ u, callP (s.thr u) → u ∈ ts) (h : seqCheck ts s as = true) : RunSeqP s as := by
  induction as generalizing s with
  | nil => trivial
  | cons a as ih =>
    simp only [seqCheck, Bool.and_eq_true, decide_eq_true_eq, List.contains_iff_mem] at h
    obtain ⟨⟨h1, h2⟩, h3⟩ := h
    refine ⟨fun t u ht hu => ?_, ih _ (fun u hu => ?_) h3⟩
    · exact eq_of_filter_length_le_one h1 (hin t ht) (hin u hu) ((callPb_iff _).mpr ht) ((callPb_iff _).mpr hu)
    · by_cases e : u = a.thread
      · exact e ▸ h2
      · exact hin u (apply_thr_ne s a u e ▸ hu)

theorem runSeqP_init_of_check (n : Nat) (ts : List Nat) (hnd : ts.Nodup) (as : List Act)
    (h : seqCheck ts (init n) as = true) : RunSeqP (init n) as :=
  runSeqP_of_check ts _ as (fun u hu => by simp [init, callP] at hu) h

theorem runSeqP_append (s : St) (as bs : List Act) : RunSeqP s (as ++ bs) ↔ RunSeqP s as ∧ RunSeqP (run s as) bs := by
  induction as generalizing s with
  | nil => simp [RunSeqP]
  | cons a as ih => simp [RunSeqP, ih, and_assoc]

theorem seqP_of_runSeqP_snoc (s : St) (as : List Act) (a : Act) (h : RunSeqP s (as ++ [a])) : SeqP (run s as) :=
  ((runSeqP_append s as [a]).mp h).2.1

/-! ## blocking behind a suspended reservation, solo progress (C20) -/

def NotBy (u : Nat) (as : List Act) : Prop := ∀ a ∈ as, a.thread ≠ u

theorem apply_pPublish_stuck {s : St} {a : Act} {t v id' len : Nat} (ht : s.thr t = .pPublish v id' len)
    (hne : s.tail ≠ id') (ha : a.thread = t) : apply s a = s := by
  cases a <;> simp only [Act.thread] at ha <;> subst ha <;> simp [apply, step, ht, hne]

/-- while the holder of a lower sequence number does not act (a parked reservation, say), a publisher stays where it is:
    its CAS waits for `tail` to reach its number -/
theorem blocked_behind {s : St} (h : Inv s) {u id t v id' len : Nat} (hu : holdsP (s.thr u) id)
    (ht : s.thr t = .pPublish v id' len) (hlt : id < id') {as : List Act} (hnb : NotBy u as) (hok : RunOk s as) :
    (run s as).thr t = .pPublish v id' len := by
  induction as generalizing s with
  | nil => exact ht
  | cons a as ih =>
    have := (h.pRange u id hu).1
    refine ih (inv_apply s a h hok.1) (apply_thr_ne s a u (hnb a (.head _)).symm ▸ hu) ?_
      (fun b hb => hnb b (.tail _ hb)) hok.2
    by_cases hat : a.thread = t
    · rw [apply_pPublish_stuck ht (by omega) hat]; exact ht
    · exact (apply_thr_ne s a t (Ne.symm hat)).trans ht

/-- a length query nothing overlaps answers `tail - head` (the two loads see one state; the window `tail - head ≤ N < 2^32`
    makes the `u32` difference exact) -/
theorem solo_len (s : St) (t : Nat) (ht : s.thr t = .idle) (h1 : s.head ≤ s.tail) (h2 : s.tail - s.head < 4294967296) :
    (run s [.len t, .step t, .step t]).thr t = .done (.len (s.tail - s.head)) := by
  simp [run, apply, step, ht, U32.wsub_wrap s.tail s.head h1 h2]

theorem solo_reserve_ok (s : St) (t : Nat) (ht : s.thr t = .idle) (he : s.enqTail = s.tail)
    (hroom : s.tail - s.head < s.N) :
    (run s [.reserve t, .step t, .step t]).thr t = .rRet s.tail (.reserved (s.tail % s.N) (s.tail - s.head)) := by
  simp [run, apply, step, ht, he, hroom]

theorem solo_reserve_full (s : St) (t : Nat) (ht : s.thr t = .idle) (he : s.enqTail = s.tail)
    (hfull : ¬ (s.tail - s.head < s.N)) :
    let s' := run s [.reserve t, .step t, .step t, .step t]
    s'.thr t = .done .full ∧ s'.enqTail = s.enqTail ∧ s'.tail = s.tail ∧ s'.buf = s.buf := by
  simp [run, apply, step, ht, he, hfull]

/-! ## the stand-alone queue API (C18): only `send` / `recv` / `len` calls -/

/-- actions of the stand-alone non-blocking queue (`publish_movable` / `consume_movable` / `available_elements_count`) -/
def queueAct : Act → Prop
  | .send _ _ | .recv _ | .len _ | .step _ | .ack _ => True
  | _ => False

theorem reachableX_of_queueActs (n : Nat) (as : List Act) (h : ∀ a ∈ as, queueAct a) : ReachableX n (run (init n) as) :=
  reachableX_of_noCancel n as (fun t hm => by simpa [queueAct] using h _ hm)

end Mutiny.Ring
