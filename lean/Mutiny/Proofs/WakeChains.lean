import Mutiny.Model.Wake
import Mutiny.Model.WakeRuleLang

/-!
# The wake rules of the `Wake` model (M8) as guard chains of `WakeRuleLang`

The translator (G3) writes the wake decision of every send path as an `if … else if …` chain.  `Rule.chains r` lists the
chains it writes for the paths that follow rule `r`; each of them evaluates to `Rule.target r`, for every `MAX_STREAMS`
and every length (`evalChain_of_mem`).  An obligation of `Props/C04_Rules.lean` then only has to find its generated
chain in that list.
-/

namespace Mutiny.Wake
open Mutiny.WakeRuleLang

/-- `.streamId`: "that listener" of a Multi channel -/
def Rule.chains : Rule → List Chain
  | .fs | .rsv => [[(.le .lenAfter (.max 0), .varMinus .lenAfter 1)]]
  | .atomic => [[(.le .lenAfter (.max 0), .varMinus .lenAfter 1), (.eq .lenAfter (.max 1), .varMinus .lenAfter 2)]]
  | .cb => [[(.le .lenBefore (.const 2), .const 0)], [(.le .lenBefore (.const 2), .streamId)]]
  | .m2 => [[(.le .lenAfter (.const 2), .streamId)]]
  | .m1 => [[(.le .lenAfter (.const 1), .streamId)]]
  | .all => [[(.notSentinel, .streamId)]]

theorem evalChain_of_mem {r : Rule} {c : Chain} (h : c ∈ r.chains) (MAX len : Nat) :
    evalChain MAX len c = some (r.target MAX len) := by
  revert c
  -- the two sides differ only in where `some` stands; the guards first, while their `decide`s still speak of
  -- `V.val` / `E.val`
  cases r <;> simp [Rule.chains, evalChain, G.holds, T.val]
  all_goals simp only [V.val, E.val, Rule.target, Nat.add_zero, apply_ite some] <;> rfl

end Mutiny.Wake
