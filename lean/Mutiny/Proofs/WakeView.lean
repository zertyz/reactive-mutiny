import Mutiny.Model.Wake

/-!
# What one stream sees of the `Wake` model (M8), and what the steps of the machine do to it

Both invariants of the protocol (`WInv`, no lost wake-up; `CInv`, cancel terminates) speak about single streams through
three predicates that look only at `sloc j`, `tok j`, `waker j`, `keep j` and `notified (tok j)`, and only grow with the
last one: (W2) `W2at`, `safe` and the model's `armed`.  `View s s' i` says that stream `i` sees the same in `s'` as in
`s` except that a notification may have arrived and its flag may have been cleared; the lemmas of this file say which
steps leave which views alone, and what a step does to the stream or producer that takes it.  The one idea of the
protocol is a fact about states: under (W2), a stream whose registered waker has been notified is safe
(`safe_of_woken`).  What both invariants then say of a stream is that it is `covered`: safe, or some producer is still
inside its `wake_stream`.

A further clause `X s i` that reads only what `View` keeps needs `X.view` and `X.stepS_self` (the stream's own step),
and goes through `apply` as `w2_apply` does.  For `i ≠ j` a drop of `j` leaves the view of `i` alone
(`⟨by simp [setS, e], rfl, rfl, id, id⟩`); a poll of `j` does so only if tokens are kept apart (see `winv_poll`).

A new program point or action is outside every classification that ends in a wildcard until it is entered there:
`inWake`, `SLoc.live`, `PLoc.atCall`, `Act.thread`, `Act.isCall`, `safe`, `entry` here; `atRest`, `C04Act`, `C04Loc`
(`WakeInv`); `tokFresh`, `noNewTok` (`WakeCancelInv`).
-/

namespace Mutiny.Wake

/-- producer thread at `l` is inside `wake_stream(j)` -/
def inWake : PLoc → Nat → Prop
  | .wWake i _, j | .wLock i _, j | .wSpin i _, j | .wRetry i _, j => i = j
  | _, _ => False

theorem inWake_iff {l : PLoc} {j : Nat} :
    inWake l j ↔ ∃ r, l = .wWake j r ∨ l = .wLock j r ∨ l = .wSpin j r ∨ l = .wRetry j r := by
  cases l <;> simp [inWake] <;> omega

/-- the stream task still exists and has not answered end-of-stream -/
def SLoc.live : SLoc → Prop
  | .ended | .dLock | .dSpin | .dWaker | .dSyncLock | .dSyncSpin | .dSync | .dropped => False
  | _ => True

/-- between two calls: where `stepP` does nothing and a call may begin, be resumed or be acknowledged -/
def PLoc.atCall : PLoc → Prop
  | .idle | .done _ | .aSusp _ _ | .zSusp _ => True
  | _ => False

theorem not_atCall_of_inWake {l : PLoc} {i : Nat} (h : inWake l i) : ¬ l.atCall := by
  cases l <;> simp_all [inWake, PLoc.atCall]

def Act.thread : Act → Option Nat
  | .send t _ | .claim t _ | .sendWith t _ | .sendRsv t _ | .asyncMov t _ | .asyncZc t _ | .resume t | .cancel t _
  | .stepP t | .ack t => some t
  | _ => none

def Act.isCall : Act → Prop
  | .poll _ _ | .dropS _ | .stepP _ | .stepS _ => False
  | _ => True

theorem rule_target_one (r : Rule) {mx : Nat} (h : 0 < mx) : r.target mx 1 = some 0 := by
  cases r <;> simp [Rule.target] <;> omega

/-! ## the view of one stream -/

structure View (s s' : St) (i : Nat) : Prop where
  sloc  : s'.sloc i = s.sloc i
  tok   : s'.tok i = s.tok i
  waker : s'.waker i = s.waker i
  keep  : s'.keep i = true → s.keep i = true
  notif : s.notified (s.tok i) = true → s'.notified (s.tok i) = true

/-- (W2) at stream `j`: a parked stream, and one about to wake itself, has its current token registered -/
def W2at (s : St) (j : Nat) : Prop := s.sloc j = .parked ∨ s.sloc j = .sSelfWake → s.waker j = some (s.tok j)

theorem W2at.view {s s' : St} {i : Nat} (h : W2at s i) (v : View s s' i) : W2at s' i := by
  simp only [W2at, v.sloc, v.tok, v.waker]; exact h

/-- stream `j` cannot be stranded: it is notified, or will store its waker and wake itself, or is at a point from which
    it polls again or ends without looking at its notification -/
def safe (s : St) (j : Nat) : Prop :=
  match s.sloc j with
  | .parked => s.notified (s.tok j) = true
  | .sCmp => s.notified (s.tok j) = true ∨ s.waker j ≠ some (s.tok j)
  | .sFlag => s.keep j = true → s.notified (s.tok j) = true ∨ s.waker j ≠ some (s.tok j)
  | _ => True

theorem safe.view {s s' : St} {i : Nat} (h : safe s i) (v : View s s' i) : safe s' i := by
  have := v.notif; have := v.keep
  simp only [safe, v.sloc, v.tok, v.waker] at h ⊢
  cases hl : s.sloc i <;> simp only [hl] at h ⊢ <;> grind

theorem armed_iff_safe {s : St} {j : Nat} (lv : (s.sloc j).live) (hk : s.keep j = true) :
    armed s j = true ↔ safe s j := by
  simp only [armed, safe]
  cases hl : s.sloc j <;> simp only [hl, SLoc.live] at lv ⊢ <;> simp [hk, or_comm]

def woken (s : St) (j : Nat) : Prop := ∀ tk, s.waker j = some tk → s.notified tk = true

theorem safe_of_woken {s : St} {j : Nat} (w2 : W2at s j) (h : woken s j) : safe s j := by
  -- if the stream's own token is the registered one, it is the one that was notified
  have own : s.waker j = some (s.tok j) → s.notified (s.tok j) = true := h (s.tok j)
  unfold safe
  split
  next hl => exact own (w2 (.inl hl))  -- parked: by (W2) the own token is the registered one
  -- `sm.reg.cmp`: the own token is registered, hence notified; or it is not, and the stream will wake itself
  next => exact (Decidable.em _).imp own id
  next => exact fun _ => (Decidable.em _).imp own id  -- `sm.flag`: the same, if the flag lets the stream go on
  next => trivial

def covered (s : St) (j : Nat) : Prop := safe s j ∨ ∃ t, inWake (s.thr t) j

/-! ## what a stream step does -/

/-- what no step of a stream task changes -/
structure SFrame (s s' : St) : Prop where
  k    : s'.k = s.k
  MAX  : s'.MAX = s.MAX
  rule : s'.rule = s.rule
  thr  : s'.thr = s.thr
  tok  : s'.tok = s.tok
  keep : s'.keep = s.keep
  accepted : s'.accepted = s.accepted

theorem stepS_frame (s : St) (j : Nat) : SFrame s (stepS s j) := by
  unfold stepS
  split <;> (try split) <;> constructor <;> rfl

theorem stepS_of_ready {s : St} {j : Nat} (h : s.sloc j = .ready) : stepS s j = s := by simp [stepS, h]

theorem stepS_view (s : St) {i j : Nat} (h : i ≠ j) : View s (stepS s j) i := by
  have f := stepS_frame s j
  suffices (stepS s j).sloc i = s.sloc i ∧ (stepS s j).waker i = s.waker i ∧
      (s.notified (s.tok i) = true → (stepS s j).notified (s.tok i) = true) from
    ⟨this.1, congrFun f.tok i, this.2.1, by rw [f.keep]; exact id, this.2.2⟩
  unfold stepS
  split <;> (try split) <;> simp +contextual [setS, notify, h]

theorem stepS_queue (s : St) (j : Nat) :
    ((stepS s j).q = s.q ∧ (stepS s j).delivered = s.delivered) ∨
      ∃ v, s.sloc j = .sPoll ∧ s.q = v :: (stepS s j).q ∧ (stepS s j).delivered = s.delivered ++ [(j, v)] ∧
        (stepS s j).sloc j = .ready := by
  unfold stepS
  split <;> (try split) <;> simp [setS, notify, *]

theorem W2at.stepS_self {s : St} {j : Nat} (h : W2at s j) : W2at (stepS s j) j := by
  cases hl : s.sloc j <;> simp only [stepS, hl]
  case ready | parked | ended | dropped => exact h
  case sCmp => split <;> simp_all [W2at, setS]  -- parks only if the comparison found the own token registered
  case sSelfWake => simpa [W2at, setS, notify, hl] using h
  -- `sm.reg.store` registers the own token; the other steps end at a point of which (W2) says nothing
  all_goals (try split) <;> simp [W2at, setS]

/-- `hq` excludes the one step that can lose `safe`: `ms.poll` finding the queue empty, with the flag still set, goes to
    `sm.flag` without the notification that the poll has cleared -/
theorem safe.stepS_self {s : St} {j : Nat} (h : safe s j) (hq : (stepS s j).q ≠ [] ∨ s.keep j = false) :
    safe (stepS s j) j := by
  cases hl : s.sloc j <;> simp only [stepS, hl] at hq ⊢
  case ready | parked | ended | dropped => exact h
  case sPoll => split <;> simp_all [safe, setS]  -- takes an event and is `ready`; else `hq` says the flag is cleared
  case sFlag => split <;> simp_all [safe, setS]  -- `sm.reg.cmp` asks what `sm.flag` asked under the flag
  case sCmp => split <;> simp_all [safe, setS]  -- parks only if the own token is registered: `h` says it is notified
  -- `sm.reg.selfwake` notifies the own token; the other steps end at a point of which `safe` asks nothing
  all_goals (try split) <;> simp [safe, setS, notify]

theorem live_stepS_self {s : St} {j : Nat} (hk : s.keep j = true) (h : (s.sloc j).live) :
    ((stepS s j).sloc j).live := by
  cases hl : s.sloc j <;> simp only [stepS, hl] <;> (try split) <;> simp_all [setS, SLoc.live]

theorem covered.stepS {s : St} {i j : Nat} (h : covered s j) (hq : i = j → (stepS s i).q ≠ [] ∨ s.keep j = false) :
    covered (stepS s i) j := by
  unfold covered; rw [(stepS_frame s i).thr]
  refine h.imp_left fun h => ?_
  by_cases e : j = i
  · subst e; exact h.stepS_self (hq rfl)
  · exact h.view (stepS_view s e)

/-! ## what a producer step does -/

/-- what no step of a producer changes -/
structure PFrame (s s' : St) : Prop where
  k     : s'.k = s.k
  MAX   : s'.MAX = s.MAX
  rule  : s'.rule = s.rule
  sloc  : s'.sloc = s.sloc
  tok   : s'.tok = s.tok
  waker : s'.waker = s.waker
  delivered : s'.delivered = s.delivered

theorem stepP_frame (s : St) (t : Nat) : PFrame s (stepP s t) := by
  unfold stepP afterPublishR
  (repeat' split) <;> constructor <;> rfl

theorem stepP_keep (s : St) (t i : Nat) :
    (stepP s t).keep i = s.keep i ∨
      (s.thr t = .cCancel i ∧ (stepP s t).thr t = .wWake i .unit ∧ (stepP s t).keep i = false) := by
  cases hl : s.thr t <;> simp only [stepP, afterPublishR, hl]
  case cCancel j => by_cases e : i = j <;> simp [setThr, e]
  all_goals (repeat' split) <;> simp [setThr, notify]

theorem keep_of_stepP {s : St} {t i : Nat} (h : (stepP s t).keep i = true) : s.keep i = true :=
  (stepP_keep s t i).elim (· ▸ h) fun e => by simp [e.2.2] at h

theorem stepP_notified_mono {s : St} (t : Nat) {tk : Nat} (h : s.notified tk = true) :
    (stepP s t).notified tk = true := by
  unfold stepP afterPublishR
  (repeat' split) <;> simp [setThr, notify, h]

theorem stepP_view (s : St) (t i : Nat) : View s (stepP s t) i :=
  have f := stepP_frame s t
  ⟨congrFun f.sloc i, congrFun f.tok i, congrFun f.waker i, keep_of_stepP, stepP_notified_mono t⟩

theorem stepP_thr_ne (s : St) {t u : Nat} (h : u ≠ t) : (stepP s t).thr u = s.thr u := by
  unfold stepP afterPublishR
  (repeat' split) <;> simp [setThr, notify, h]

theorem stepP_inWake {s : St} {t j : Nat} (h : inWake (s.thr t) j) :
    inWake ((stepP s t).thr t) j ∨ woken (stepP s t) j := by
  cases hl : s.thr t <;> simp only [hl, inWake] at h <;> subst h <;> simp only [stepP, hl]
  -- `sm.wake` and `sm.wake.retry` notify whoever is registered (the retry may find nobody: `woken` is then empty); from
  -- `sm.wake` on nobody, and from the two steps that take the lock, the producer goes on inside `wake_stream`
  all_goals (try split) <;> simp_all [setThr, notify, inWake, woken]

theorem stepP_notified {s : St} {t tk : Nat} (h : (stepP s t).notified tk = true) :
    s.notified tk = true ∨ ∃ j, inWake (s.thr t) j ∧ s.waker j = some tk := by
  cases hl : s.thr t <;> simp only [stepP, afterPublishR, hl, inWake] at h ⊢
  -- `sm.wake` and `sm.wake.retry` notify the waker they find registered
  case wWake i r | wRetry i r =>
    cases hw : s.waker i <;> simp only [hw, setThr, notify] at h
    · exact .inl h
    · split at h
      next e => exact .inr ⟨i, rfl, e ▸ hw⟩
      next => exact .inl h
  all_goals (repeat' split at h) <;> exact .inl h

theorem covered.stepP {s : St} {j : Nat} (t : Nat) (w2 : W2at s j) (h : covered s j) : covered (stepP s t) j := by
  rcases h with h | ⟨u, h⟩
  · exact .inl (h.view (stepP_view s t j))
  · by_cases e : u = t
    · subst e; exact (stepP_inWake h).symm.imp (safe_of_woken (w2.view (stepP_view s u j))) fun h => ⟨u, h⟩
    · exact .inr ⟨u, by rw [stepP_thr_ne s e]; exact h⟩

theorem stepP_queue (s : St) (t : Nat) :
    ((stepP s t).q = s.q ∧ (stepP s t).accepted = s.accepted) ∨
      ∃ v sl r, s.thr t = .pClm v sl r ∧ (stepP s t).q = s.q ++ [v] ∧ (stepP s t).accepted = s.accepted ++ [v] ∧
        (stepP s t).thr t = .pSmp s.accepted.length r := by
  unfold stepP afterPublishR
  (repeat' split) <;> simp [setThr, notify, *]

/-- the producer of the oldest pending event measures length 1 and wakes stream 0 -/
theorem stepP_sample_oldest {s : St} {t : Nat} {r : Rule} (h : s.thr t = .pSmp s.delivered.length r) (hm : 0 < s.MAX) :
    (stepP s t).thr t = .wWake 0 .ok := by
  have : max 1 (s.delivered.length + 1 - s.delivered.length) = 1 := by omega
  simp [stepP, h, afterPublishR, rule_target_one r hm, setThr]

/-! ## what a call, a poll, a drop does -/

def wakeLoc (r : Rule) (MAX len : Nat) : PLoc :=
  match r.target MAX len with
  | some j => .wWake j .ok
  | none => .done .ok

theorem afterPublishR_eq (s : St) (r : Rule) (t len : Nat) :
    afterPublishR s r t len = setThr s t (wakeLoc r s.MAX len) := by
  unfold afterPublishR wakeLoc; cases r.target s.MAX len <;> rfl

theorem afterPublish_eq (s : St) (t len : Nat) : afterPublish s t len = setThr s t (wakeLoc s.rule s.MAX len) :=
  afterPublishR_eq s s.rule t len

/-- where a call may leave its producer without having published: at `sm.cancel` only if it is `cancel`, suspended
    holding a reservation only if it is the movable `send_with_async` -/
def entry (a : Act) (t : Nat) : PLoc → Prop
  | .cCancel j => a = .cancel t j
  | .aSusp v _ => a = .asyncMov t v
  | _ => True

/-- the queue discipline of a call that leaves producer `t` at `l`, the queue as `Q` and the accepted events as `A`:
    nothing is published; or one event is, at the end of the queue, and `t` is at the wake decision — for length 1 if
    the queue was empty — or has resumed the movable full-sync channel's suspended send, which decides by the length
    seen at reservation (finding D8b) -/
def Pub (s : St) (a : Act) (t : Nat) (l : PLoc) (Q A : List Nat) : Prop :=
  (Q = s.q ∧ A = s.accepted ∧ entry a t l) ∨
    ∃ v, Q = s.q ++ [v] ∧ A = s.accepted ++ [v] ∧
      ((∃ r len, l = wakeLoc r s.MAX len ∧ (s.q = [] → len = 1)) ∨ (∃ b, s.thr t = .aSusp v b) ∧ s.rule ≠ .atomic)

theorem apply_call (s : St) (a : Act) (h : a.isCall) :
    apply s a = s ∨ (∃ H, apply s a = { s with held := H }) ∨
      ∃ t l Q A R H, a.thread = some t ∧ (s.thr t).atCall ∧
        apply s a = setThr { s with q := Q, accepted := A, resv := R, held := H } t l ∧ Pub s a t l Q A := by
  -- splitting the equation `hr` is far cheaper than splitting the goal
  generalize hr : apply s a = r
  cases a <;> simp only [Act.isCall] at h <;> simp only [apply, afterPublish_eq, afterPublishR_eq] at hr
  all_goals (repeat' split at hr) <;> subst hr <;> (try exact .inl rfl)
  case release => exact .inr (.inl ⟨_, rfl⟩)
  all_goals refine .inr (.inr ⟨_, _, _, _, _, _, rfl, by simp only [PLoc.atCall, *], rfl, ?_⟩)
  -- published, now at the wake decision (`h_2.isFalse`: `resume` of a zero-copy send)
  case send.isTrue.isTrue | sendWith.isTrue.isTrue | sendRsv.isTrue.isTrue.isTrue | sendRsv.isTrue.isTrue.isFalse |
      h_2.isFalse =>
    exact .inr ⟨_, rfl, rfl, .inl ⟨_, _, rfl, by simp +contextual⟩⟩
  -- `resume` of the movable full-sync channel's suspended send
  case h_1.isTrue.isTrue | h_1.isTrue.isFalse => exact .inr ⟨_, rfl, rfl, .inr ⟨⟨_, ‹_›⟩, ‹_›⟩⟩
  -- nothing is published: refused, claim, suspension, cancel, acknowledgement
  all_goals exact .inl ⟨rfl, rfl, by simp only [entry]⟩

theorem covered.move {s : St} {j t : Nat} {l : PLoc} {Q A : List Nat} {R : List (Nat × Nat)} {H : Nat} (h : covered s j)
    (ht : (s.thr t).atCall) : covered (setThr { s with q := Q, accepted := A, resv := R, held := H } t l) j :=
  h.imp_right fun ⟨u, hu⟩ => ⟨u, by
    -- a producer that moves from a call point is not the one inside `wake_stream`
    have : u ≠ t := fun e => not_atCall_of_inWake hu (e ▸ ht)
    simp only [setThr, if_neg this]; exact hu⟩

/-- `nf`: a poll clears the notification of the old token of `j` and of the new one, whoever else owns them -/
theorem apply_poll (s : St) (j : Nat) (nt : Option Nat) :
    apply s (.poll j nt) = s ∨ ∃ tf nf, apply s (.poll j nt) = setS { s with tok := tf, notified := nf } j .sPoll ∧
      j < s.k ∧ (∀ i, i ≠ j → tf i = s.tok i) ∧ (tf j = s.tok j ∨ nt = some (tf j)) ∧
      ∀ u, u ≠ s.tok j → nt ≠ some u → nf u = s.notified u := by
  simp only [apply]
  split
  next hj =>
    split <;> (try exact .inl rfl)
    -- the poll of a `ready` and of a `parked` stream; only the latter may come with a new token
    all_goals
      refine .inr ⟨_, _, rfl, hj, ?_⟩  -- `rfl` before the rest: a mismatch with the state literal is then reported here
      cases nt <;> exact ⟨by simp +contextual, by simp, by grind⟩
  next => exact .inl rfl

theorem apply_dropS (s : St) (j : Nat) : apply s (.dropS j) = s ∨ apply s (.dropS j) = setS s j .dLock := by
  simp only [apply]; split
  · exact .inr rfl
  · exact .inl rfl

/-! ## every action -/

/-- what the actions `as` leave alone: the parameters; flags are only cleared; a producer none of them belongs to
    stays -/
structure RunFrame (s s' : St) (as : List Act) : Prop where
  k    : s'.k = s.k
  rule : s'.rule = s.rule
  keep : ∀ i, s'.keep i = true → s.keep i = true
  thr  : ∀ u, (∀ a ∈ as, a.thread ≠ some u) → s'.thr u = s.thr u

/-- framed against the list the action comes from: `thr` speaks of every action of a run, so `run_frame` composes -/
theorem apply_frame (s : St) {a : Act} {as : List Act} (ha : a ∈ as) : RunFrame s (apply s a) as := by
  by_cases hc : a.isCall
  · rcases apply_call s a hc with e | ⟨_, e⟩ | ⟨t, _, _, _, _, _, ht, -, e, -⟩ <;> rw [e] <;>
      refine ⟨rfl, rfl, fun _ => id, fun u hu => ?_⟩ <;> try rfl
    simp [setThr, show u ≠ t from fun e => hu a ha (e ▸ ht)]
  cases a <;> simp only [Act.isCall, not_true_eq_false] at hc
  case stepP t =>
    have f := stepP_frame s t
    exact ⟨f.k, f.rule, fun _ => keep_of_stepP, fun u hu => stepP_thr_ne s fun e => hu _ ha (e ▸ rfl)⟩
  case stepS j =>
    have f := stepS_frame s j
    exact ⟨f.k, f.rule, fun i => by simp only [apply, f.keep]; exact id, fun u _ => congrFun f.thr u⟩
  case poll j nt =>
    rcases apply_poll s j nt with e | ⟨_, _, e, -⟩ <;> rw [e] <;> exact ⟨rfl, rfl, fun _ => id, fun _ _ => rfl⟩
  case dropS j => rcases apply_dropS s j with e | e <;> rw [e] <;> exact ⟨rfl, rfl, fun _ => id, fun _ _ => rfl⟩

theorem run_frame (s : St) (as : List Act) : RunFrame s (run s as) as :=
  List.foldlRecOn (motive := (RunFrame s · as)) as apply ⟨rfl, rfl, fun _ => id, fun _ _ => rfl⟩ fun s' g _ ha =>
    have f := apply_frame s' ha
    ⟨f.k.trans g.k, f.rule.trans g.rule, fun i hi => g.keep i (f.keep i hi),
      fun u hu => (f.thr u hu).trans (g.thr u hu)⟩

theorem w2_apply (s : St) (a : Act) (h : ∀ i, W2at s i) (i : Nat) : W2at (apply s a) i := by
  by_cases hc : a.isCall
  · rcases apply_call s a hc with e | ⟨_, e⟩ | ⟨_, _, _, _, _, _, -, -, e, -⟩ <;> rw [e] <;> exact h i
  cases a <;> simp only [Act.isCall, not_true_eq_false] at hc
  case stepP t => exact (h i).view (stepP_view s t i)
  case stepS j =>
    by_cases e : i = j
    · subst e; exact (h i).stepS_self
    · exact (h i).view (stepS_view s e)
  case poll j nt =>
    rcases apply_poll s j nt with e | ⟨tf, nf, e, -, htf, -⟩ <;> rw [e]
    · exact h i
    · by_cases e : i = j
      · simp [W2at, setS, e]
      · simpa [W2at, setS, e, htf i e] using h i
  case dropS j =>
    rcases apply_dropS s j with e | e <;> rw [e]
    · exact h i
    · by_cases e : i = j
      · simp [W2at, setS, e]
      · simpa [W2at, setS, e] using h i

end Mutiny.Wake
