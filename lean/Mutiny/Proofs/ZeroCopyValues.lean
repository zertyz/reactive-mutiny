import Mutiny.Proofs.ZeroCopyConserve

/-!
# M4 `ZeroCopy`: value level — payload exactness and FIFO of the VALUES — and the one walk through the program points
  that shows both invariants preserved (`inv_step`: slot conservation by itself, the values given conservation)
-/

namespace Mutiny.ZeroCopy

/-- value-level invariant: a slot being published holds the value of its enqueue, and the accepted values end with the
    values of the slots now in the queue, in queue order (`d`: whatever was accepted before them) -/
structure VInv (s : St) : Prop where
  wr : ∀ t v id, s.thr t = .ePub v id → s.pool id = v
  fifo : ∃ d, s.enqLog = d ++ (Ring.abs s.q).map s.pool

theorem VInv.after {s : St} (v : VInv s) (t : Nat) {l : ZLoc} {f' q' : Ring.St} {pool' : Nat → Nat} {el dl : List Nat}
    (hl : ∀ w id, l = .ePub w id → pool' id = w)
    (hpool : ∀ u w id, u ≠ t → s.thr u = .ePub w id → pool' id = s.pool id)
    (hfifo : ∃ d, el = d ++ (Ring.abs q').map pool') :
    VInv (setThr { s with free := f', q := q', pool := pool', enqLog := el, deqLog := dl } t l) := by
  refine ⟨fun u w id hu => ?_, hfifo⟩
  by_cases hut : u = t
  · exact hl w id (by simpa [hut] using hu)
  · have hu : s.thr u = .ePub w id := by simpa [hut] using hu
    exact (hpool u w id hut hu).trans (v.wr u w id hu)

theorem VInv.rephase {s : St} (v : VInv s) (t : Nat) {l : ZLoc} (hl : ∀ w id, l ≠ .ePub w id) {f' q' : Ring.St}
    {dl : List Nat} (ha : Ring.abs q' = Ring.abs s.q) :
    VInv (setThr { s with free := f', q := q', deqLog := dl } t l) :=
  v.after t (fun w id e => absurd e (hl w id)) (fun _ _ _ _ _ => rfl) (ha ▸ v.fifo)

theorem VInv.inside {s : St} (v : VInv s) {f' q' : Ring.St} (ha : Ring.abs q' = Ring.abs s.q) :
    VInv { s with free := f', q := q' } :=
  ⟨v.wr, by show ∃ d, s.enqLog = d ++ (Ring.abs q').map s.pool; exact ha ▸ v.fifo⟩

theorem inv_step (s : St) (t : Nat) (h : ZInv s) : ZInv (step s t) ∧ (VInv s → VInv (step s t)) := by
  have hph := h.phase t
  cases hz : s.thr t <;> simp only [hz, phaseOk] at hph
  case idle | done => simp only [step, hz]; exact ⟨h, id⟩
  case eAlloc w =>
    have hF := Ring.Frame.step hph.1.not_rCan
    rcases step_eAlloc h hz with ⟨id, hd, ha, e⟩ | ⟨hd, ha, e⟩ | ⟨hc, ha, e⟩ <;> rw [e]
    · -- `id` leaves the front of the free list for `t`'s hands and is written: nobody else holds it, nor is it queued
      refine ⟨h.move t (hF.call (.ack t)) (.call (.refl t _) (.send t id))
          ⟨Ring.ack_thr hd, by rw [Ring.send_thr id hph.2]; rfl⟩ (by simp [ha, hz, slot]; grind),
        fun v => ?_⟩
      obtain ⟨d, hd'⟩ := v.fifo
      have hidf : id ∈ Ring.abs s.free ++ Ring.abs s.q := by simp [ha]
      have hnq : id ∉ Ring.abs s.q := fun hq =>
        (List.nodup_append.mp h.tok.nodup).2.2 id (by simp [ha]) id hq rfl
      refine v.after t (fun _ _ e => by cases e; simp) (fun u w' id' _ hu => ?_) ⟨d, ?_⟩
      · have : id' ≠ id := fun e => h.tok.hFresh u id' (by rw [hu]; rfl) (e ▸ hidf)
        simp [this]
      · rw [Ring.abs_call _ _ (by simp), hd']
        congr 1
        exact List.map_congr_left fun x hx => by simp [show x ≠ id from fun e => hnq (e ▸ hx)]
    · exact ⟨h.move t (hF.call (.ack t)) (.refl t _) ⟨Ring.ack_thr hd, hph.2⟩ (by simp [ha, hz, slot]),
        fun v => v.rephase t (by simp) rfl⟩
    · exact ⟨h.inside t hF (.refl t _) (by rw [hz]; exact ⟨hc, hph.2⟩) ha rfl, fun v => v.inside rfl⟩
  case dCons =>
    have hQ := Ring.Frame.step hph.2.not_rCan
    rcases step_dCons h hz with ⟨id, hd, ha, e⟩ | ⟨hd, ha, e⟩ | ⟨hc, ha, e⟩ <;> rw [e]
    · -- `id` leaves the front of the queue for `t`'s hands
      refine ⟨h.move t (.refl t _) (hQ.call (.ack t)) ⟨hph.1, Ring.ack_thr hd⟩ (by simp [ha, hz, slot]; grind),
        fun v => ?_⟩
      obtain ⟨d, hd'⟩ := v.fifo
      exact v.after t (by simp) (fun _ _ _ _ _ => rfl) ⟨d ++ [s.pool id], by
        rw [Ring.abs_call _ _ (by simp), hd', ha, List.map_cons, List.append_assoc, List.singleton_append]⟩
    · exact ⟨h.move t (.refl t _) (hQ.call (.ack t)) ⟨hph.1, Ring.ack_thr hd⟩ (by simp [ha, hz, slot]),
        fun v => v.rephase t (by simp) (by simp [ha])⟩
    · exact ⟨h.inside t (.refl t _) hQ (by rw [hz]; exact ⟨hph.1, hc⟩) rfl ha, fun v => v.inside ha⟩
  case ePub w id =>
    have hQ := Ring.Frame.step hph.2.not_rCan
    rcases step_ePub h hz with ⟨sid, hd, ha, e⟩ | ⟨hc, ha, e⟩ <;> rw [e]
    · -- `id` goes from `t`'s hands to the back of the queue, with the value written at its allocation
      refine ⟨h.move t (.refl t _) hQ ⟨hph.1, sid, hd⟩ (by simp [ha, hz, slot]), fun v => ?_⟩
      obtain ⟨d, hd'⟩ := v.fifo
      exact v.after t (by simp) (fun _ _ _ _ _ => rfl)
        ⟨d, by rw [ha, hd', List.map_append, List.map_singleton, v.wr t w id hz, List.append_assoc]⟩
    · exact ⟨h.inside t (.refl t _) hQ (by rw [hz]; exact ⟨hph.1, hc⟩) rfl ha, fun v => v.inside ha⟩
  case dFree id w =>
    have hF := Ring.Frame.step hph.1.not_rCan
    rcases step_dFree h hz with ⟨sid, hd, ha, e⟩ | ⟨hc, ha, e⟩ <;> rw [e]
    · -- `id` goes from `t`'s hands to the back of the free list
      exact ⟨h.move t hF (.refl t _) ⟨⟨sid, hd⟩, hph.2⟩ (by simp [ha, hz, slot]; grind),
        fun v => v.rephase t (by simp) rfl⟩
    · exact ⟨h.inside t hF (.refl t _) (by rw [hz]; exact ⟨hc, hph.2⟩) ha rfl, fun v => v.inside rfl⟩
  case ePubLen w =>
    obtain ⟨hf, sid, hq⟩ := hph
    obtain ⟨⟨len, hd⟩, ha⟩ := plen_step s.q t sid hq
    simp only [step, hz, hd]
    exact ⟨h.move t (.refl t _) (.call (.step (by simp [hq])) (.ack t)) ⟨hf, Ring.ack_thr hd⟩
        (by simp [ha, hz, slot]),
      fun v => v.rephase t (by simp) (by simp [ha])⟩
  case dFreeLen w =>
    obtain ⟨⟨sid, hf⟩, hq⟩ := hph
    obtain ⟨⟨len, hd⟩, ha⟩ := plen_step s.free t sid hf
    simp only [step, hz, hd]
    exact ⟨h.move t (.call (.step (by simp [hf])) (.ack t)) (.refl t _) ⟨Ring.ack_thr hd, hq⟩
        (by simp [ha, hz, slot]),
      fun v => v.rephase t (by simp) rfl⟩
  case dFreeHook id w =>
    -- `free.publish_movable(id)` starts
    simp only [step, hz]
    exact ⟨h.move t (.call (.refl t _) (.send t id)) (.refl t _) ⟨by rw [Ring.send_thr id hph.1]; rfl, hph.2⟩
      (by simp [hz, slot]), fun v => v.rephase t (by simp) rfl⟩
  case dLen | dLenH | dDrop | lLen | lLenH =>
    simp only [step, hz]
    exact ⟨h.rephase t hph ⟨rfl, rfl⟩ (by rw [hz]; rfl), fun v => v.rephase t (by simp) rfl⟩

theorem inv_apply (s : St) (a : Act) (h : ZInv s) : ZInv (apply s a) ∧ (VInv s → VInv (apply s a)) := by
  cases a <;> simp only [apply]
  case step t => exact inv_step s t h
  case enqueue t w =>
    split
    next hi =>
      have hph := h.phase t
      simp only [hi, phaseOk] at hph
      exact ⟨h.move t (.call (.refl t _) (.recv t)) (.refl t _) ⟨by rw [Ring.recv_thr hph.1]; trivial, hph.2⟩
        (by simp [hi, slot]), fun v => v.rephase t (by simp) rfl⟩
    next => exact ⟨h, id⟩
  case dequeue t =>
    split
    next hi =>
      have hph := h.phase t
      simp only [hi, phaseOk] at hph
      exact ⟨h.move t (.refl t _) (.call (.refl t _) (.recv t)) ⟨hph.1, by rw [Ring.recv_thr hph.2]; trivial⟩
        (by simp [hi, slot]), fun v => v.rephase t (by simp) (by simp)⟩
    next => exact ⟨h, id⟩
  case len t =>
    split
    next hi =>
      exact ⟨h.rephase t (by simpa [hi, phaseOk] using h.phase t) ⟨rfl, rfl⟩ (by rw [hi]; rfl),
        fun v => v.rephase t (by simp) rfl⟩
    next => exact ⟨h, id⟩
  case ack t =>
    split
    next r hd =>
      exact ⟨h.rephase t (by simpa [hd, phaseOk] using h.phase t) ⟨rfl, rfl⟩ (by rw [hd]; rfl),
        fun v => v.rephase t (by simp) rfl⟩
    next => exact ⟨h, id⟩

theorem reachable_vinv {n : Nat} (hn : 0 < n) {s : St} (h : Reachable n s) : ZInv s ∧ VInv s := by
  obtain ⟨as, rfl⟩ := h
  exact List.foldlRecOn (motive := fun s => ZInv s ∧ VInv s) as apply
    ⟨zinv_init n hn, { wr := fun t v id h => by simp [init] at h, fifo := ⟨[], by simp [init, Ring.abs, Ring.init]⟩ }⟩
    fun s h a _ => ⟨(inv_apply s a h.1).1, (inv_apply s a h.1).2 h.2⟩

theorem reachable_zinv {n : Nat} (hn : 0 < n) {s : St} (h : Reachable n s) : ZInv s := (reachable_vinv hn h).1

/-- in every reachable state of the zero-copy container both component rings satisfy the ring invariant; so every
    theorem about M1 that is stated for `Ring.Inv` applies to the free list and to the queue of ids inside
    `AtomicZeroCopy` / the atomic pool allocator / the atomic `NonBlockingQueue` -/
theorem components_inv {n : Nat} (hn : 0 < n) {s : St} (h : Reachable n s) : Ring.Inv s.free ∧ Ring.Inv s.q :=
  ⟨(reachable_zinv hn h).fInv, (reachable_zinv hn h).qInv⟩

end Mutiny.ZeroCopy
