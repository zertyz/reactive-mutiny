import Mutiny.Proofs.ZeroCopyTok

/-!
# M4 `ZeroCopy`: slot conservation — no pool slot is in two places (free list, queue, one thread's hands) — and, by
  pigeonhole over the conserved slots, both rings always have room

Every step of the composed machine is a few actions of one thread on its own part of the two rings (`Ring.Frame`), never
an index-based publish / cancel, and moves at most one slot between a ring and that thread's hands (`ZInv.after`).
Since the rings have room, no publisher of either ring ever finds it full or gives a claim back: `phaseOk` says so
(`Pub`), and the branch of `step` in which the slot would be lost is never taken (`step_ePub`, `step_dFree`).
-/

namespace Mutiny.ZeroCopy

/-- the pool slot a thread holds outside the two rings -/
def held : ZLoc → Nat → Prop
  | .ePub _ id, k => id = k
  | .dLen id, k => id = k
  | .dLenH id, k => id = k
  | .dDrop id _, k => id = k
  | .dFreeHook id _, k => id = k
  | .dFree id _, k => id = k
  | _, _ => False

/-- `held` as a function of the phase: the form `Tok.move` takes, while statements speak of `held` -/
def slot : ZLoc → Option Nat
  | .ePub _ id | .dLen id | .dLenH id | .dDrop id _ | .dFreeHook id _ | .dFree id _ => some id
  | _ => none

theorem mem_slot {l : ZLoc} {k : Nat} : k ∈ slot l ↔ held l k := by
  cases l <;> simp only [slot, held, Option.mem_def, Option.some.injEq, reduceCtorEq]

/-- which ring a thread is working on in each phase, and at what kind of program point -/
def phaseOk : ZLoc → Ring.Loc → Ring.Loc → Prop
  | .eAlloc _, f, q => ConsLoc f ∧ q = .idle
  | .ePub _ id, f, q => f = .idle ∧ Pub id q
  | .ePubLen _, f, q => f = .idle ∧ ∃ sid, q = .pLen sid
  | .dCons, f, q => f = .idle ∧ ConsLoc q
  | .dFree id _, f, q => Pub id f ∧ q = .idle
  | .dFreeLen _, f, q => (∃ sid, f = .pLen sid) ∧ q = .idle
  | _, f, q => f = .idle ∧ q = .idle

structure ZInv (s : St) : Prop where
  /-- both rings have as many cells as the pool has slots: what turns conservation into room (`f_room`, `q_room`) -/
  nF : s.free.N = s.N
  nQ : s.q.N = s.N
  fInv : Ring.Inv s.free
  qInv : Ring.Inv s.q
  phase : ∀ t, phaseOk (s.thr t) (s.free.thr t) (s.q.thr t)
  tok : Tok (Ring.abs s.free ++ Ring.abs s.q) (fun t id => held (s.thr t) id) s.N

@[simp] theorem thr_setThr (s : St) (t u : Nat) (l : ZLoc) : (setThr s t l).thr u = if u = t then l else s.thr u := rfl
@[simp] theorem free_setThr (s : St) (t : Nat) (l : ZLoc) : (setThr s t l).free = s.free := rfl
@[simp] theorem q_setThr (s : St) (t : Nat) (l : ZLoc) : (setThr s t l).q = s.q := rfl
@[simp] theorem N_setThr (s : St) (t : Nat) (l : ZLoc) : (setThr s t l).N = s.N := rfl

/-! ## room -/

/-- whoever holds a sequence number of either ring holds a pool slot -/
theorem phase_holder {l : ZLoc} {f q : Ring.Loc} (h : phaseOk l f q) {k : Nat}
    (hk : Ring.holdsP f k ∨ Ring.holdsP q k) : ∃ id, held l id := by
  cases l <;> simp only [phaseOk] at h <;> simp only [held, exists_eq', exists_false]
  case eAlloc => obtain ⟨hc, rfl⟩ := h; exact hk.elim (hc.not_holdsP k) id
  case dCons => obtain ⟨rfl, hc⟩ := h; exact hk.elim id (hc.not_holdsP k)
  case ePubLen => obtain ⟨rfl, sid, rfl⟩ := h; exact hk.elim id id
  case dFreeLen => obtain ⟨⟨sid, rfl⟩, rfl⟩ := h; exact hk.elim id id
  all_goals (obtain ⟨rfl, rfl⟩ := h; exact hk.elim id id)

/-- a deallocation never finds the free list full -/
theorem f_room {s : St} (h : ZInv s) : s.free.enqTail ≤ s.free.head + s.free.N :=
  h.nF ▸ ring_room s.free h.fInv (h.tok.sub (List.sublist_append_left _ _))
    fun u _ hk => phase_holder (h.phase u) (.inl hk)

/-- the admission test of `ring.publish(id)` never fails -/
theorem q_room {s : St} (h : ZInv s) : s.q.enqTail ≤ s.q.head + s.q.N :=
  h.nQ ▸ ring_room s.q h.qInv (h.tok.sub (List.sublist_append_right _ _))
    fun u _ hk => phase_holder (h.phase u) (.inr hk)

/-! ## what a step of the four phases that run a ring operation does, by the outcome of that operation -/

theorem step_eAlloc {s : St} {t v : Nat} (h : ZInv s) (hz : s.thr t = .eAlloc v) :
    let f := Ring.step s.free t
    (∃ id, f.thr t = .done (.got id) ∧ Ring.abs s.free = id :: Ring.abs f ∧
      step s t = setThr { s with free := Ring.apply f (.ack t), pool := fun j => if j = id then v else s.pool j,
                                 q := Ring.apply s.q (.send t id) } t (.ePub v id)) ∨
    (f.thr t = .done .empty ∧ Ring.abs f = Ring.abs s.free ∧
      step s t = setThr { s with free := Ring.apply f (.ack t) } t (.done .full)) ∨
    (ConsLoc (f.thr t) ∧ Ring.abs f = Ring.abs s.free ∧ step s t = { s with free := f }) := by
  dsimp only
  have hph := h.phase t
  simp only [hz, phaseOk] at hph
  rcases consumer_step s.free t h.fInv hph.1 with ⟨id, hd, ha⟩ | ⟨hd, ha⟩ | ⟨hc, ha⟩
  · exact .inl ⟨id, hd, ha, by simp only [step, hz, hd]⟩
  · exact .inr (.inl ⟨hd, ha, by simp only [step, hz, hd]⟩)
  · refine .inr (.inr ⟨hc, ha, ?_⟩)
    simp only [step, hz]
    split
    next e => exact absurd e (hc.not_done _)
    next e => exact absurd e (hc.not_done _)
    next => rfl

theorem step_dCons {s : St} {t : Nat} (h : ZInv s) (hz : s.thr t = .dCons) :
    let q' := Ring.step s.q t
    (∃ id, q'.thr t = .done (.got id) ∧ Ring.abs s.q = id :: Ring.abs q' ∧
      step s t = setThr { s with q := Ring.apply q' (.ack t) } t (.dLen id)) ∨
    (q'.thr t = .done .empty ∧ Ring.abs q' = Ring.abs s.q ∧
      step s t = setThr { s with q := Ring.apply q' (.ack t) } t (.done .empty)) ∨
    (ConsLoc (q'.thr t) ∧ Ring.abs q' = Ring.abs s.q ∧ step s t = { s with q := q' }) := by
  dsimp only
  have hph := h.phase t
  simp only [hz, phaseOk] at hph
  rcases consumer_step s.q t h.qInv hph.2 with ⟨id, hd, ha⟩ | ⟨hd, ha⟩ | ⟨hc, ha⟩
  · exact .inl ⟨id, hd, ha, by simp only [step, hz, hd]⟩
  · exact .inr (.inl ⟨hd, ha, by simp only [step, hz, hd]⟩)
  · refine .inr (.inr ⟨hc, ha, ?_⟩)
    simp only [step, hz]
    split
    next e => exact absurd e (hc.not_done _)
    next e => exact absurd e (hc.not_done _)
    next => rfl

theorem step_ePub {s : St} {t v id : Nat} (h : ZInv s) (hz : s.thr t = .ePub v id) :
    let q' := Ring.step s.q t
    (∃ sid, q'.thr t = .pLen sid ∧ Ring.abs q' = Ring.abs s.q ++ [id] ∧
      step s t = setThr { s with q := q', enqLog := s.enqLog ++ [v] } t (.ePubLen v)) ∨
    (Pub id (q'.thr t) ∧ Ring.abs q' = Ring.abs s.q ∧ step s t = { s with q := q' }) := by
  dsimp only
  have hph := h.phase t
  simp only [hz, phaseOk] at hph
  rcases publisher_step s.q t id h.qInv hph.2 (q_room h) with ⟨sid, hd, ha⟩ | ⟨hc, ha⟩
  · exact .inl ⟨sid, hd, ha, by simp only [step, hz, hd]⟩
  · refine .inr ⟨hc, ha, ?_⟩
    simp only [step, hz]
    split
    next e => exact absurd e (hc.not_pLen _)
    next e => exact absurd e (hc.not_done _)
    next => rfl

theorem step_dFree {s : St} {t id v : Nat} (h : ZInv s) (hz : s.thr t = .dFree id v) :
    let f := Ring.step s.free t
    (∃ sid, f.thr t = .pLen sid ∧ Ring.abs f = Ring.abs s.free ++ [id] ∧
      step s t = setThr { s with free := f } t (.dFreeLen v)) ∨
    (Pub id (f.thr t) ∧ Ring.abs f = Ring.abs s.free ∧ step s t = { s with free := f }) := by
  dsimp only
  have hph := h.phase t
  simp only [hz, phaseOk] at hph
  rcases publisher_step s.free t id h.fInv hph.1 (f_room h) with ⟨sid, hd, ha⟩ | ⟨hc, ha⟩
  · exact .inl ⟨sid, hd, ha, by simp only [step, hz, hd]⟩
  · refine .inr ⟨hc, ha, ?_⟩
    simp only [step, hz]
    split
    next e => exact absurd e (hc.not_pLen _)
    next e => exact absurd e (hc.not_done _)
    next => rfl

/-! ## preservation -/

/-- thread `t` alone acts, on its own part of the two rings and on its phase; the slots in the rings and in its hands
    are the same as before, in whatever order -/
theorem ZInv.after {s s' : St} (h : ZInv s) (t : Nat) (hN : s'.N = s.N) (hf : Ring.Frame t s.free s'.free)
    (hq : Ring.Frame t s.q s'.q) (hthr : ∀ u, u ≠ t → s'.thr u = s.thr u)
    (hph : phaseOk (s'.thr t) (s'.free.thr t) (s'.q.thr t))
    (hp : (Ring.abs s'.free ++ Ring.abs s'.q ++ (slot (s'.thr t)).toList).Perm
          (Ring.abs s.free ++ Ring.abs s.q ++ (slot (s.thr t)).toList)) : ZInv s' := by
  refine { nF := by rw [hf.N, h.nF, hN], nQ := by rw [hq.N, h.nQ, hN], fInv := hf.inv h.fInv, qInv := hq.inv h.qInv,
           phase := fun u => ?_, tok := ?_ }
  · by_cases hu : u = t
    · exact hu ▸ hph
    · rw [hthr u hu, hf.thr u hu, hq.thr u hu]; exact h.phase u
  · rw [hN]
    exact h.tok.move t (slot (s.thr t)) (slot (s'.thr t)) (fun x hx => mem_slot.mp hx) (fun x hx => mem_slot.mpr hx)
      (fun u x hu hx => by rw [hthr u hu] at hx; exact hx) hp

/-- `after` as `inv_step` meets it: `move`, phase and rings change; `inside`, a ring step within a phase that keeps both
    contents; `rephase`, only the phase and `deqLog` change -/
theorem ZInv.move {s : St} (h : ZInv s) (t : Nat) {l : ZLoc} {f' q' : Ring.St} {pool' : Nat → Nat} {el dl : List Nat}
    (hf : Ring.Frame t s.free f') (hq : Ring.Frame t s.q q') (hph : phaseOk l (f'.thr t) (q'.thr t))
    (hp : (Ring.abs f' ++ Ring.abs q' ++ (slot l).toList).Perm
          (Ring.abs s.free ++ Ring.abs s.q ++ (slot (s.thr t)).toList)) :
    ZInv (setThr { s with free := f', q := q', pool := pool', enqLog := el, deqLog := dl } t l) :=
  h.after t rfl hf hq (fun u hu => if_neg hu) (by simpa using hph) (by simpa using hp)

theorem ZInv.inside {s : St} (h : ZInv s) (t : Nat) {f' q' : Ring.St} (hf : Ring.Frame t s.free f')
    (hq : Ring.Frame t s.q q') (hph : phaseOk (s.thr t) (f'.thr t) (q'.thr t)) (haf : Ring.abs f' = Ring.abs s.free)
    (haq : Ring.abs q' = Ring.abs s.q) : ZInv { s with free := f', q := q' } :=
  h.after t rfl hf hq (fun _ _ => rfl) hph (by show (Ring.abs f' ++ Ring.abs q' ++ _).Perm _; rw [haf, haq])

theorem ZInv.rephase {s : St} (h : ZInv s) (t : Nat) {l : ZLoc} {dl : List Nat}
    (hi : s.free.thr t = .idle ∧ s.q.thr t = .idle) (hp : phaseOk l .idle .idle) (hs : slot l = slot (s.thr t)) :
    ZInv (setThr { s with deqLog := dl } t l) :=
  h.move t (.refl t _) (.refl t _) (by rw [hi.1, hi.2]; exact hp) (by rw [hs])

theorem inv_fullRing (n : Nat) (hn : 0 < n) : Ring.Inv (fullRing n) :=
  have nobody (k : Nat) : Owns (fun _ : Nat => (none : Option Nat)) k k :=
    { range := nofun, uniq := nofun, cover := fun _ h1 h2 => absurd h2 (Nat.not_lt.2 h1) }
  .of
    { fifo :=
        { npos := hn, hHT := Nat.zero_le n, hTN := Nat.le_add_left n 0, accLen := List.length_range
          bufOk := fun k _ (hk : k < n) => by
            show (List.range n)[k]? = some (k % n); rw [List.getElem?_range hk, Nat.mod_eq_of_lt hk]
          delIds := rfl, delVals := rfl }
      hTE := Nat.le_refl n, hHD := Nat.le_refl 0 }
    (fun _ => trivial) (nobody n) (nobody 0)

theorem abs_fullRing (n : Nat) : Ring.abs (fullRing n) = List.range n := by
  simp [Ring.abs, fullRing, Ring.init]

theorem zinv_init (n : Nat) (hn : 0 < n) : ZInv (init n) := by
  refine { nF := rfl, nQ := rfl, fInv := inv_fullRing n hn, qInv := Ring.inv_init n hn,
           phase := fun t => by simp [init, phaseOk, fullRing, Ring.init], tok := ?_ }
  show Tok (Ring.abs (fullRing n) ++ []) _ _
  rw [abs_fullRing, List.append_nil]
  refine ⟨List.nodup_range, fun x hx => List.mem_range.mp hx, ?_, ?_, ?_⟩ <;> intro t <;> simp [init, held]

end Mutiny.ZeroCopy
