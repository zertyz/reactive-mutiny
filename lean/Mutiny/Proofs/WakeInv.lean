import Mutiny.Proofs.WakeView

/-!
# The invariant behind C04 (no lost wake-up) for the `Wake` model (M8)

* `WInv` — for executions without `cancel` and `dropS`, and with `asyncMov` only where the channel is the movable
  atomic one (`C04Act`); its two protocol facts are (W2) (`W2at`, an invariant of every execution: `w2_apply`) and
  (W1): while an event is queued, some existing stream is `covered`, or the producer of the oldest pending event is
  about to measure the length;
* decision procedure for `stuck` on concrete executions (`stuck_run_of_check`), used by the recorded counterexamples.
-/

namespace Mutiny.Wake

/-- what `stuck` asks of every producer: no call in progress (`PLoc.atCall` also admits a suspended asynchronous
    send) -/
def atRest : PLoc → Prop
  | .idle | .done _ => True
  | _ => False

theorem atRest_iff (l : PLoc) : atRest l ↔ (l = .idle ∨ ∃ r, l = .done r) := by
  cases l <;> simp [atRest]

/-- the actions of a C04 execution: everything except `cancel` and dropping streams; the movable `send_with_async` only
    on the movable ATOMIC channel (`rule = atomic`, where its wake decision uses the length measured after the
    publication — on the movable full-sync channel the call holds the queue-wide lock while suspended: finding D8b) -/
def C04Act (r : Rule) : Act → Prop
  | .cancel _ _ | .dropS _ => False
  | .asyncMov _ _ => r = .atomic
  | _ => True

instance (r : Rule) : DecidablePred (C04Act r) := fun a => by cases a <;> simp only [C04Act] <;> infer_instance

/-! ## the C04 invariant -/

/-- where the producers of a C04 execution can be: nobody cancels, and only the movable atomic channel's asynchronous
    sends are part of it -/
def C04Loc (r : Rule) : PLoc → Prop
  | .cCancel _ => False
  | .aSusp _ _ => r = .atomic
  | _ => True

structure WInv (s : St) : Prop where
  mxpos   : 0 < s.MAX
  kpos    : 0 < s.k
  /-- (W0): no existing stream is told to end -/
  keepAll : ∀ j, j < s.k → s.keep j = true
  lenEq   : s.accepted.length = s.delivered.length + s.q.length
  locs    : ∀ t, C04Loc s.rule (s.thr t)
  slocOut : ∀ j, s.k ≤ j → s.sloc j = .ready
  slocLv  : ∀ j, (s.sloc j).live
  w2      : ∀ j, W2at s j
  /-- (W1): some existing stream is covered, or some producer has just published the OLDEST pending event (`slot` =
      number of events taken so far) and is about to measure the length — it will find `1` and wake stream 0 -/
  w1      : s.q ≠ [] → (∃ j, j < s.k ∧ covered s j) ∨ ∃ t r, s.thr t = .pSmp s.delivered.length r

theorem winv_init (n mx k : Nat) (rule : Rule) (zc : Bool) (hk : 0 < k) (hm : 0 < mx) :
    WInv (init n mx k rule zc) := by
  constructor <;> simp [init, SLoc.live, C04Loc, W2at, hm, hk]

theorem winv_stepS (s : St) (j : Nat) (h : WInv s) : WInv (stepS s j) := by
  by_cases hj : j < s.k
  case neg => rw [stepS_of_ready (h.slocOut j (by omega))]; exact h
  have f := stepS_frame s j
  have hqd := stepS_queue s j
  have kj := h.keepAll j hj
  refine { mxpos := f.MAX ▸ h.mxpos, kpos := f.k ▸ h.kpos, keepAll := by rw [f.k, f.keep]; exact h.keepAll, lenEq := ?_,
           locs := by rw [f.thr, f.rule]; exact h.locs, slocOut := fun i hi => ?_, slocLv := fun i => ?_,
           w2 := w2_apply s (.stepS j) h.w2,  -- `apply s (.stepS j)` is `stepS s j` by unfolding
           w1 := fun hq' => ?_ }
  · rw [f.accepted, h.lenEq]
    rcases hqd with ⟨eq, ed⟩ | ⟨v, -, eq, ed, -⟩ <;> rw [ed, eq]
    simp only [List.length_append, List.length_cons, List.length_nil]; omega
  · rw [f.k] at hi; rw [(stepS_view s (by omega : i ≠ j)).sloc]; exact h.slocOut i hi
  · by_cases e : i = j
    · subst e; exact live_stepS_self kj (h.slocLv i)
    · rw [(stepS_view s e).sloc]; exact h.slocLv i
  · rw [f.k, f.thr]
    rcases hqd with ⟨eq, ed⟩ | ⟨v, -, -, -, hr⟩
    · rw [ed]
      exact (h.w1 (eq ▸ hq')).imp_left fun ⟨i, hi, hc⟩ => ⟨i, hi, hc.stepS fun _ => .inl hq'⟩
    · -- it took an event
      exact .inl ⟨j, hj, .inl (by simp [safe, hr])⟩

theorem C04Loc.stepP {r : Rule} {s : St} {t : Nat} (h : C04Loc r (s.thr t)) : C04Loc r ((stepP s t).thr t) := by
  -- no step leads to `sm.cancel` or to a suspended send
  cases hl : s.thr t <;> simp only [Wake.stepP, afterPublishR, hl] at h ⊢
  all_goals (repeat' split) <;> simp_all [setThr, notify, C04Loc]

theorem winv_stepP (s : St) (t : Nat) (h : WInv s) : WInv (stepP s t) := by
  have f := stepP_frame s t
  have hq := stepP_queue s t
  have thr' : ∀ u, (stepP s t).thr u = s.thr u ∨ u = t := fun u => (Decidable.em (u = t)).symm.imp (stepP_thr_ne s) id
  refine { mxpos := f.MAX ▸ h.mxpos, kpos := f.k ▸ h.kpos, keepAll := fun i hi => ?_, lenEq := ?_, locs := fun u => ?_,
           slocOut := by rw [f.k, f.sloc]; exact h.slocOut, slocLv := by rw [f.sloc]; exact h.slocLv,
           w2 := w2_apply s (.stepP t) h.w2, w1 := fun hq' => ?_ }
  · rcases stepP_keep s t i with e | ⟨e, -, -⟩
    · rw [e]; exact h.keepAll i (f.k ▸ hi)
    · exact absurd (h.locs t) (by rw [e]; exact id)  -- nobody is at `sm.cancel`
  · have := h.lenEq
    rcases hq with ⟨h1, h2⟩ | ⟨v, -, r, -, h1, h2, -⟩ <;> rw [h1, h2, f.delivered]
    · exact this
    · simp only [List.length_append, List.length_singleton]; omega
  · rw [f.rule]
    rcases thr' u with e | e
    · rw [e]; exact h.locs u
    · subst e; exact (h.locs u).stepP
  · rw [f.k, f.delivered]
    by_cases hq0 : s.q = []
    · -- the event just published is the oldest pending one
      rcases hq with ⟨h1, -⟩ | ⟨v, -, r, -, -, -, h3⟩
      · exact absurd (h1 ▸ hq') (by simp [hq0])
      · have : s.accepted.length = s.delivered.length := by rw [h.lenEq, hq0]; rfl
        exact .inr ⟨t, r, this ▸ h3⟩
    rcases h.w1 hq0 with ⟨i, hi, hc⟩ | ⟨t', r, ht⟩
    · exact .inl ⟨i, hi, hc.stepP t (h.w2 i)⟩
    · rcases thr' t' with e | e
      · exact .inr ⟨t', r, e ▸ ht⟩
      · subst e
        exact .inl ⟨0, h.kpos, .inr ⟨t', by rw [stepP_sample_oldest ht h.mxpos]; rfl⟩⟩

theorem C04Loc.wakeLoc (r r' : Rule) (MAX len : Nat) : C04Loc r (wakeLoc r' MAX len) := by
  unfold Wake.wakeLoc; split <;> trivial

theorem C04Loc.of_entry {r : Rule} {a : Act} {t : Nat} {l : PLoc} (ha : C04Act r a) (h : entry a t l) : C04Loc r l := by
  cases l with
  | cCancel j => subst h; exact ha.elim
  | aSusp v b => subst h; exact ha
  | _ => trivial

/-- a call keeps the invariant because a queue that becomes non-empty comes with a `wake_stream(0)` (`Pub`) -/
theorem winv_call (s : St) (a : Act) (h : WInv s) (hc : a.isCall) (ha : C04Act s.rule a) : WInv (apply s a) := by
  rcases apply_call s a hc with e | ⟨_, e⟩ | ⟨t, l, Q, A, _, _, -, ht, e, hp⟩ <;> rw [e]
  · exact h
  · exact { h with }
  -- what is needed of `Pub`: where the producer is; the count; a newly non-empty queue comes with the wake-up
  have ⟨hl, hA, hQ⟩ : C04Loc s.rule l ∧ A.length = s.delivered.length + Q.length ∧
      (Q ≠ [] → s.q ≠ [] ∨ l = .wWake 0 .ok) := by
    rcases hp with ⟨rfl, rfl, he⟩ | ⟨v, rfl, rfl, ⟨r, len, rfl, hlen⟩ | ⟨⟨b, hb⟩, hr⟩⟩
    · exact ⟨.of_entry ha he, h.lenEq, .inl⟩
    · refine ⟨.wakeLoc .., by simp [h.lenEq, Nat.add_assoc], fun _ => ?_⟩
      by_cases h0 : s.q = []
      · exact .inr (by simp [hlen h0, wakeLoc, rule_target_one _ h.mxpos])
      · exact .inl h0
    · -- the resumption of the movable full-sync channel's asynchronous send is not part of a C04 execution
      exact absurd (by simpa [C04Loc, hb] using h.locs t) hr
  refine { h with lenEq := hA, locs := fun u => ?_, w1 := fun hq => ?_ }
  · simp only [setThr]; split
    · exact hl
    · exact h.locs u
  · rcases hQ hq with hq0 | rfl
    · rcases h.w1 hq0 with ⟨i, hi, hc⟩ | ⟨u, r, hu⟩
      · exact .inl ⟨i, hi, hc.move ht⟩
      · have : u ≠ t := fun e => by rw [← e, hu] at ht; exact ht
        exact .inr ⟨u, r, by simp only [setThr, if_neg this]; exact hu⟩
    · exact .inl ⟨0, h.kpos, .inr ⟨t, by simp [setThr, inWake]⟩⟩

/-- `WInv` does not keep tokens apart: a poll of `j` with the token of `i ≠ j` clears `notified (tok i)`, so no clause
    reading `notified` is carried for `i ≠ j` (`CInv`, with `tokInj`, does).  So (W1) is existential; here `j` is it. -/
theorem winv_poll (s : St) (j : Nat) (nt : Option Nat) (h : WInv s) : WInv (apply s (.poll j nt)) := by
  have w2' := w2_apply s (.poll j nt) h.w2
  rcases apply_poll s j nt with e | ⟨tf, nf, e, hj, -⟩ <;> rw [e] at w2' ⊢
  · exact h
  refine { h with slocOut := fun i hi => ?_, slocLv := fun i => ?_, w2 := w2',
                  w1 := fun _ => .inl ⟨j, hj, .inl (by simp [safe, setS])⟩ }
  · have : i ≠ j := by have : s.k ≤ i := hi; omega
    simp only [setS, if_neg this]; exact h.slocOut i hi
  · have := h.slocLv i
    simp only [setS]; split <;> trivial

theorem winv_apply (s : St) (a : Act) (h : WInv s) (ha : C04Act s.rule a) : WInv (apply s a) := by
  by_cases hc : a.isCall
  · exact winv_call s a h hc ha
  cases a <;> simp only [Act.isCall, not_true_eq_false] at hc
  case poll j nt => exact winv_poll s j nt h
  case dropS j => exact ha.elim
  case stepP t => exact winv_stepP s t h
  case stepS j => exact winv_stepS s j h

theorem winv_run (s : St) (as : List Act) (h : WInv s) (ha : ∀ a ∈ as, C04Act s.rule a) : WInv (run s as) :=
  -- the rule, of which `C04Act` speaks, stays
  (List.foldlRecOn (motive := fun s' => WInv s' ∧ s'.rule = s.rule) as apply ⟨h, rfl⟩ fun s' ⟨h', e⟩ a hm =>
    ⟨winv_apply s' a h' (e ▸ ha a hm), (apply_frame s' hm).rule.trans e⟩).1

theorem reachable_winv {n mx k : Nat} {rule : Rule} {zc : Bool} (hk : 0 < k) (hm : 0 < mx) {as : List Act}
    (has : ∀ a ∈ as, C04Act rule a) : WInv (run (init n mx k rule zc) as) :=
  winv_run _ as (winv_init n mx k rule zc hk hm) has

/-! ## deciding `stuck` on concrete executions -/

instance : DecidablePred atRest := fun l => by cases l <;> simp only [atRest] <;> infer_instance

/-- `stuck`, looking at the producer threads `0 .. T-1` only -/
def stuckBelow (s : St) (T : Nat) : Prop :=
  s.q ≠ [] ∧ (∀ t, t < T → atRest (s.thr t)) ∧
    ∀ j, j < s.k → s.keep j = true → s.sloc j = .parked ∧ s.notified (s.tok j) = false

instance (s : St) (T : Nat) : Decidable (stuckBelow s T) := inferInstanceAs (Decidable (_ ∧ _ ∧ _))

theorem stuck_run_of_check (n mx k : Nat) (rule : Rule) (zc : Bool) (as : List Act) (T : Nat)
    (h1 : ∀ a ∈ as, ∀ t ∈ a.thread, t < T) (h2 : stuckBelow (run (init n mx k rule zc) as) T) :
    stuck (run (init n mx k rule zc) as) := by
  refine ⟨h2.1, fun t => ?_, h2.2.2⟩
  by_cases ht : t < T
  · exact (atRest_iff _).1 (h2.2.1 t ht)
  · -- no action of the run is by `t`: it is `idle` as in `init`
    rw [(run_frame _ as).thr t fun a ha e => ht (h1 a ha t e)]; exact .inl rfl

/-- the task of stream `j` polls an empty channel for the first time (stores its waker, wakes itself), is polled again
    and parks: `parked`, `waker j = some (tok j)`, not notified -/
def parkActs (j : Nat) : List Act :=
  [.poll j none, .stepS j, .stepS j, .stepS j, .stepS j, .stepS j, .stepS j, .poll j none, .stepS j, .stepS j, .stepS j]

end Mutiny.Wake
