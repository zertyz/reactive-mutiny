import Mutiny.Proofs.WakeView
import Mutiny.Proofs.Basic

/-!
# The invariant behind C07 (`cancel_stream` terminates the targeted stream) for the `Wake` model (M8)

Arbitrary executions (sends of every flavour, asynchronous sends, cancels, drops, spurious polls), under the one
assumption that tokens are task identities: a spurious poll never hands a stream the token that another existing stream
currently owns (`TokRun`).  Without it the claim fails (`Mutiny/Props/C07.lean`, `c07_shared_token_counterexample`).
-/

namespace Mutiny.Wake

/-- a poll with a new token does not reuse the current token of another existing stream -/
def tokFresh (s : St) : Act → Prop
  | .poll j (some n) => ∀ i, i < s.k → i ≠ j → s.tok i ≠ n
  | _ => True

/-- tokens stay task identities along the execution -/
def TokRun (s : St) : List Act → Prop
  | [] => True
  | a :: as => tokFresh s a ∧ TokRun (apply s a) as

def noNewTok : Act → Prop
  | .poll _ (some _) => False
  | _ => True

instance : DecidablePred noNewTok := fun a => by
  unfold noNewTok; split <;> infer_instance

theorem tokRun_of_noNewTok (s : St) (as : List Act) (h : ∀ a ∈ as, noNewTok a) : TokRun s as := by
  induction as generalizing s with
  | nil => trivial
  | cons a as ih =>
    refine ⟨?_, ih _ fun b hb => h b (List.mem_cons_of_mem _ hb)⟩
    have := h a List.mem_cons_self
    unfold tokFresh; split
    · exact this.elim
    · trivial

structure CInv (s : St) : Prop where
  tokInj : ∀ i j, i < s.k → j < s.k → i ≠ j → s.tok i ≠ s.tok j
  w2     : ∀ j, W2at s j
  c7     : ∀ j, j < s.k → s.keep j = false → covered s j

theorem cinv_init (n mx k : Nat) (rule : Rule) (zc : Bool) : CInv (init n mx k rule zc) := by
  constructor <;> simp [init, covered, safe, W2at]

theorem cinv_apply (s : St) (a : Act) (h : CInv s) (hf : tokFresh s a) : CInv (apply s a) := by
  have w2' := w2_apply s a h.w2
  by_cases hc : a.isCall
  · rcases apply_call s a hc with e | ⟨_, e⟩ | ⟨t, _, _, _, _, _, -, ht, e, -⟩ <;> rw [e]
    · exact h
    · exact { h with }
    · exact { h with c7 := fun i hi hk => (h.c7 i hi hk).move ht }
  cases a <;> simp only [Act.isCall, not_true_eq_false] at hc
  case stepP t =>
    show CInv (stepP s t)
    have f := stepP_frame s t
    refine { tokInj := by rw [f.k, f.tok]; exact h.tokInj, w2 := w2', c7 := fun i hi hk => ?_ }
    rcases stepP_keep s t i with e | ⟨-, e, -⟩
    · rw [e] at hk; rw [f.k] at hi
      exact (h.c7 i hi hk).stepP t (h.w2 i)
    · -- the step that clears the flag of `i` goes on into `wake_stream(i)`
      exact .inr ⟨t, by rw [e]; rfl⟩
  case stepS j =>
    have f := stepS_frame s j
    show CInv (stepS s j)
    refine { tokInj := by rw [f.k, f.tok]; exact h.tokInj, w2 := w2', c7 := fun i hi hk => ?_ }
    rw [f.k] at hi; rw [f.keep] at hk
    exact (h.c7 i hi hk).stepS fun _ => .inr hk
  case dropS j =>
    rcases apply_dropS s j with e | e <;> rw [e] at w2' ⊢
    · exact h
    refine { h with w2 := w2', c7 := fun i hi hk => ?_ }
    by_cases e : i = j
    · exact .inl (by simp [safe, setS, e])
    · exact (h.c7 i hi hk).imp_left fun hs => hs.view ⟨by simp [setS, e], rfl, rfl, id, id⟩
  case poll j nt =>
    rcases apply_poll s j nt with e | ⟨tf, nf, e, hj, htf, htj, hnf⟩ <;> rw [e] at w2' ⊢
    · exact h
    have fresh : ∀ i, i < s.k → i ≠ j → s.tok i ≠ tf j := fun i hi hij => by
      rcases htj with e | e
      · rw [e]; exact h.tokInj i j hi hj hij
      · subst e; exact hf i hi hij
    refine { tokInj := fun i i' hi hi' hne => ?_, w2 := w2', c7 := fun i hi hk => ?_ }
    · show tf i ≠ tf i'
      -- two streams other than `j` keep their tokens; the token of `j` is fresh
      grind [htf i, htf i', fresh i hi, fresh i' hi', h.tokInj i i' hi hi' hne]
    · by_cases hij : i = j
      · exact .inl (by simp [safe, setS, hij])
      · refine (h.c7 i hi hk).imp_left fun hs => hs.view ⟨by simp [setS, hij], htf i hij, rfl, id, fun hn => ?_⟩
        rw [← hn]
        exact hnf _ (h.tokInj i j hi hj hij) fun e' => by subst e'; exact hf i hi hij rfl

theorem cinv_run (s : St) (as : List Act) (h : CInv s) (hf : TokRun s as) : CInv (run s as) :=
  foldl_of_ok (ok := TokRun) (fun s a _ h hf => ⟨cinv_apply s a h hf.1, hf.2⟩) as s h hf

theorem reachable_cinv {n mx k : Nat} {rule : Rule} {zc : Bool} {as : List Act}
    (htok : TokRun (init n mx k rule zc) as) :
    CInv (run (init n mx k rule zc) as) ∧ (run (init n mx k rule zc) as).k = k :=
  ⟨cinv_run _ as (cinv_init n mx k rule zc) htok, (run_frame _ as).k⟩

end Mutiny.Wake
