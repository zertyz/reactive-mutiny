import Mutiny.Model.Handles
import Mutiny.Proofs.Basic

/-!
# Inductive invariant of the `Handles` model (M3 + M5)

`Inv s` holds in *every* `Reachable` state (`reachable_inv`).  A step of thread `t` from `l₀` is `setThr sd t l`, and
`Inv.after` asks three things of it: `Data sd` (the thread-free part of `Inv`); `Frame s sd l₀` (the data changed only
in what `t` held, so the other threads' `LocOK` survives); `Moves s sd l₀ l` (what `l` holds, `t` held before or nobody
did, and the censuses balance).  Each state transformer has its `Data.*` lemma, each change of the data that an action
makes its `Frame.*` lemma; a slot passing from one owner to the next is `Unbooked` in between.

A new program point is classified by hand in `pointOf`, `tailOf`, `ownTail`, `uOf`, `transLoc`, `transSlot`, `LocOK`,
`CallLoc`, in `inTransitOf` (Proofs/HandlesProps) and in the model's `tagOf`: their wildcards take it without complaint.
-/

namespace Mutiny.Handles

/-- the control block read at an index outside `cbs` -/
def dflt : CB := { id := 0, rc := 0, live := 0, lent := 0, owed := 0, freed := true, val := 0, gen := 0 }

theorem getCB_eq (s : St) (i : Nat) : getCB s i = s.cbs.getD i dflt := rfl

theorem getCB_of_ge {s : St} {i : Nat} (h : s.cbs.length ≤ i) : getCB s i = dflt := by
  simp [getCB_eq, List.getD_eq_getElem?_getD, List.getElem?_eq_none h]

@[simp] theorem thr_setThr (s : St) (t u : Nat) (l : Loc) :
    (setThr s t l).thr u = if u = t then l else s.thr u := rfl
@[simp] theorem N_setThr (s : St) (t : Nat) (l : Loc) : (setThr s t l).N = s.N := rfl
@[simp] theorem free_setThr (s : St) (t : Nat) (l : Loc) : (setThr s t l).free = s.free := rfl
@[simp] theorem slot_setThr (s : St) (t : Nat) (l : Loc) : (setThr s t l).slot = s.slot := rfl
@[simp] theorem alive_setThr (s : St) (t : Nat) (l : Loc) : (setThr s t l).alive = s.alive := rfl
@[simp] theorem slotGen_setThr (s : St) (t : Nat) (l : Loc) : (setThr s t l).slotGen = s.slotGen := rfl
@[simp] theorem nextGen_setThr (s : St) (t : Nat) (l : Loc) : (setThr s t l).nextGen = s.nextGen := rfl
@[simp] theorem cbs_setThr (s : St) (t : Nat) (l : Loc) : (setThr s t l).cbs = s.cbs := rfl
@[simp] theorem uniques_setThr (s : St) (t : Nat) (l : Loc) : (setThr s t l).uniques = s.uniques := rfl
@[simp] theorem dropLog_setThr (s : St) (t : Nat) (l : Loc) : (setThr s t l).dropLog = s.dropLog := rfl
@[simp] theorem getCB_setThr (s : St) (t : Nat) (l : Loc) (i : Nat) : getCB (setThr s t l) i = getCB s i := rfl

theorem setThr_setThr (s : St) (t : Nat) (l l' : Loc) : setThr (setThr s t l) t l' = setThr s t l' := by
  unfold setThr; congr 1; funext u; dsimp only; split <;> rfl

@[simp, grind =] theorem thr_updCB (s : St) (i : Nat) (f : CB → CB) : (updCB s i f).thr = s.thr := rfl
@[simp, grind =] theorem N_updCB (s : St) (i : Nat) (f : CB → CB) : (updCB s i f).N = s.N := rfl
@[simp, grind =] theorem free_updCB (s : St) (i : Nat) (f : CB → CB) : (updCB s i f).free = s.free := rfl
@[simp, grind =] theorem slot_updCB (s : St) (i : Nat) (f : CB → CB) : (updCB s i f).slot = s.slot := rfl
@[simp, grind =] theorem alive_updCB (s : St) (i : Nat) (f : CB → CB) : (updCB s i f).alive = s.alive := rfl
@[simp, grind =] theorem slotGen_updCB (s : St) (i : Nat) (f : CB → CB) : (updCB s i f).slotGen = s.slotGen := rfl
@[simp, grind =] theorem nextGen_updCB (s : St) (i : Nat) (f : CB → CB) : (updCB s i f).nextGen = s.nextGen := rfl
@[simp, grind =] theorem uniques_updCB (s : St) (i : Nat) (f : CB → CB) : (updCB s i f).uniques = s.uniques := rfl
@[simp, grind =] theorem dropLog_updCB (s : St) (i : Nat) (f : CB → CB) : (updCB s i f).dropLog = s.dropLog := rfl
@[simp, grind =] theorem length_updCB (s : St) (i : Nat) (f : CB → CB) : (updCB s i f).cbs.length = s.cbs.length := by
  simp [updCB]

theorem getCB_updCB (s : St) (i : Nat) (f : CB → CB) (j : Nat) :
    getCB (updCB s i f) j = if j = i ∧ i < s.cbs.length then f (getCB s i) else getCB s j := by
  simp only [getCB_eq, updCB, List.getD_eq_getElem?_getD, List.getElem?_modify]
  grind

@[simp, grind =] theorem thr_destroy (s : St) (id : Nat) : (destroy s id).thr = s.thr := rfl
@[simp, grind =] theorem N_destroy (s : St) (id : Nat) : (destroy s id).N = s.N := rfl
@[simp, grind =] theorem free_destroy (s : St) (id : Nat) : (destroy s id).free = s.free := rfl
@[simp, grind =] theorem slot_destroy (s : St) (id : Nat) : (destroy s id).slot = s.slot := rfl
@[simp, grind =] theorem alive_destroy (s : St) (id j : Nat) :
    (destroy s id).alive j = if j = id then false else s.alive j := rfl
@[simp, grind =] theorem slotGen_destroy (s : St) (id : Nat) : (destroy s id).slotGen = s.slotGen := rfl
@[simp, grind =] theorem nextGen_destroy (s : St) (id : Nat) : (destroy s id).nextGen = s.nextGen := rfl
@[simp, grind =] theorem cbs_destroy (s : St) (id : Nat) : (destroy s id).cbs = s.cbs := rfl
@[simp, grind =] theorem uniques_destroy (s : St) (id : Nat) : (destroy s id).uniques = s.uniques := rfl
@[simp, grind =] theorem dropLog_destroy (s : St) (id : Nat) :
    (destroy s id).dropLog = s.dropLog ++ [(id, s.slotGen id, s.slot id)] := rfl
@[simp, grind =] theorem getCB_destroy (s : St) (id i : Nat) : getCB (destroy s id) i = getCB s i := rfl

@[simp, grind =] theorem thr_release (s : St) (id : Nat) : (release s id).thr = s.thr := rfl
@[simp, grind =] theorem N_release (s : St) (id : Nat) : (release s id).N = s.N := rfl
@[simp, grind =] theorem free_release (s : St) (id : Nat) : (release s id).free = s.free ++ [id] := rfl
@[simp, grind =] theorem slot_release (s : St) (id : Nat) : (release s id).slot = s.slot := rfl
@[simp, grind =] theorem alive_release (s : St) (id : Nat) : (release s id).alive = s.alive := rfl
@[simp, grind =] theorem slotGen_release (s : St) (id : Nat) : (release s id).slotGen = s.slotGen := rfl
@[simp, grind =] theorem nextGen_release (s : St) (id : Nat) : (release s id).nextGen = s.nextGen := rfl
@[simp, grind =] theorem cbs_release (s : St) (id : Nat) : (release s id).cbs = s.cbs := rfl
@[simp, grind =] theorem uniques_release (s : St) (id : Nat) : (release s id).uniques = s.uniques := rfl
@[simp, grind =] theorem dropLog_release (s : St) (id : Nat) : (release s id).dropLog = s.dropLog := rfl
@[simp, grind =] theorem getCB_release (s : St) (id i : Nat) : getCB (release s id) i = getCB s i := rfl

/-! ## named state transformers for the record updates inside `apply` -/

def withUniques (s : St) (u : List Nat) : St := { s with uniques := u }
def pushCB (s : St) (c : CB) : St := { s with cbs := s.cbs ++ [c] }
def allocSt (s : St) (v id : Nat) (rest : List Nat) : St :=
  { s with free := rest,
           slot := fun j => if j = id then v else s.slot j,
           alive := fun j => if j = id then true else s.alive j,
           slotGen := fun j => if j = id then s.nextGen else s.slotGen j,
           nextGen := s.nextGen + 1 }

theorem allocWrite_nil {s : St} (v : Nat) (hf : s.free = []) : allocWrite s v = none := by
  unfold allocWrite; rw [hf]
theorem allocWrite_cons {s : St} (v : Nat) {id : Nat} {rest : List Nat} (hf : s.free = id :: rest) :
    allocWrite s v = some (allocSt s v id rest, id) := by
  unfold allocWrite; rw [hf]; rfl

@[simp, grind =] theorem thr_withUniques (s : St) (u : List Nat) : (withUniques s u).thr = s.thr := rfl
@[simp, grind =] theorem N_withUniques (s : St) (u : List Nat) : (withUniques s u).N = s.N := rfl
@[simp, grind =] theorem free_withUniques (s : St) (u : List Nat) : (withUniques s u).free = s.free := rfl
@[simp, grind =] theorem slot_withUniques (s : St) (u : List Nat) : (withUniques s u).slot = s.slot := rfl
@[simp, grind =] theorem alive_withUniques (s : St) (u : List Nat) : (withUniques s u).alive = s.alive := rfl
@[simp, grind =] theorem slotGen_withUniques (s : St) (u : List Nat) : (withUniques s u).slotGen = s.slotGen := rfl
@[simp, grind =] theorem nextGen_withUniques (s : St) (u : List Nat) : (withUniques s u).nextGen = s.nextGen := rfl
@[simp, grind =] theorem cbs_withUniques (s : St) (u : List Nat) : (withUniques s u).cbs = s.cbs := rfl
@[simp, grind =] theorem uniques_withUniques (s : St) (u : List Nat) : (withUniques s u).uniques = u := rfl
@[simp, grind =] theorem dropLog_withUniques (s : St) (u : List Nat) : (withUniques s u).dropLog = s.dropLog := rfl
@[simp, grind =] theorem getCB_withUniques (s : St) (u : List Nat) (i : Nat) : getCB (withUniques s u) i = getCB s i := rfl

@[simp, grind =] theorem thr_pushCB (s : St) (c : CB) : (pushCB s c).thr = s.thr := rfl
@[simp, grind =] theorem N_pushCB (s : St) (c : CB) : (pushCB s c).N = s.N := rfl
@[simp, grind =] theorem free_pushCB (s : St) (c : CB) : (pushCB s c).free = s.free := rfl
@[simp, grind =] theorem slot_pushCB (s : St) (c : CB) : (pushCB s c).slot = s.slot := rfl
@[simp, grind =] theorem alive_pushCB (s : St) (c : CB) : (pushCB s c).alive = s.alive := rfl
@[simp, grind =] theorem slotGen_pushCB (s : St) (c : CB) : (pushCB s c).slotGen = s.slotGen := rfl
@[simp, grind =] theorem nextGen_pushCB (s : St) (c : CB) : (pushCB s c).nextGen = s.nextGen := rfl
@[simp, grind =] theorem uniques_pushCB (s : St) (c : CB) : (pushCB s c).uniques = s.uniques := rfl
@[simp, grind =] theorem dropLog_pushCB (s : St) (c : CB) : (pushCB s c).dropLog = s.dropLog := rfl
@[simp, grind =] theorem length_pushCB (s : St) (c : CB) : (pushCB s c).cbs.length = s.cbs.length + 1 := by
  simp [pushCB]
theorem getCB_pushCB (s : St) (c : CB) (j : Nat) :
    getCB (pushCB s c) j = if j = s.cbs.length then c else getCB s j := by
  simp only [getCB_eq, pushCB, List.getD_eq_getElem?_getD]; grind

@[simp, grind =] theorem thr_allocSt (s : St) (v id : Nat) (r : List Nat) : (allocSt s v id r).thr = s.thr := rfl
@[simp, grind =] theorem N_allocSt (s : St) (v id : Nat) (r : List Nat) : (allocSt s v id r).N = s.N := rfl
@[simp, grind =] theorem free_allocSt (s : St) (v id : Nat) (r : List Nat) : (allocSt s v id r).free = r := rfl
@[simp, grind =] theorem slot_allocSt (s : St) (v id : Nat) (r : List Nat) (j : Nat) :
    (allocSt s v id r).slot j = if j = id then v else s.slot j := rfl
@[simp, grind =] theorem alive_allocSt (s : St) (v id : Nat) (r : List Nat) (j : Nat) :
    (allocSt s v id r).alive j = if j = id then true else s.alive j := rfl
@[simp, grind =] theorem slotGen_allocSt (s : St) (v id : Nat) (r : List Nat) (j : Nat) :
    (allocSt s v id r).slotGen j = if j = id then s.nextGen else s.slotGen j := rfl
@[simp, grind =] theorem nextGen_allocSt (s : St) (v id : Nat) (r : List Nat) :
    (allocSt s v id r).nextGen = s.nextGen + 1 := rfl
@[simp, grind =] theorem cbs_allocSt (s : St) (v id : Nat) (r : List Nat) : (allocSt s v id r).cbs = s.cbs := rfl
@[simp, grind =] theorem uniques_allocSt (s : St) (v id : Nat) (r : List Nat) : (allocSt s v id r).uniques = s.uniques := rfl
@[simp, grind =] theorem dropLog_allocSt (s : St) (v id : Nat) (r : List Nat) : (allocSt s v id r).dropLog = s.dropLog := rfl
@[simp, grind =] theorem getCB_allocSt (s : St) (v id : Nat) (r : List Nat) (i : Nat) :
    getCB (allocSt s v id r) i = getCB s i := rfl

/-! ## the invariant -/

/-- program points at which the thread's call holds (borrowed or consumed) one handle of control block `i` -/
def pointOf : Loc → Option Nat
  | .clone i => some i
  | .inc i _ => some i
  | .dDec i => some i
  | .count i => some i
  | _ => none

/-- program points of the thread that saw the counter of control block `i` reach 0 -/
def tailOf : Loc → Option Nat
  | .dDealloc i => some i
  | .dDestroy i => some i
  | .dRelease i => some i
  | .dFree i => some i
  | _ => none

/-- the points of `tailOf` at which the payload is still intact (the destructor has not run yet) -/
def ownTail : Loc → Option Nat
  | .dDealloc i => some i
  | .dDestroy i => some i
  | _ => none

/-- program points of a thread releasing the slot of a unique handle / raw allocation -/
def uOf : Loc → Option Nat
  | .uDestroy x => some x
  | .uRelease x => some x
  | _ => none

/-- program points whose slot is counted neither under a control block (`Owns`) nor under `uniques` nor under `free` -/
def transLoc : Loc → Bool
  | .dRelease _ => true
  | .uDestroy _ => true
  | .uRelease _ => true
  | _ => false

/-- control block `i` owns its pool slot: the value it was created for is still alive in slot `id`.  Stated on the data
    alone; `owns_iff` (Proofs/HandlesProps): `rc > 0 ∨ some thread is at dDealloc i / dDestroy i`.  Not `Mutiny.Owns` of
    Proofs/Owns (threads holding sequence numbers). -/
def Owns (s : St) (i : Nat) : Prop :=
  i < s.cbs.length ∧ s.alive (getCB s i).id = true ∧ s.slotGen (getCB s i).id = (getCB s i).gen

section
variable {s : St} {i : Nat}
theorem Owns.lt (h : Owns s i) : i < s.cbs.length := h.1
theorem Owns.alive (h : Owns s i) : s.alive (getCB s i).id = true := h.2.1
theorem Owns.gen (h : Owns s i) : s.slotGen (getCB s i).id = (getCB s i).gen := h.2.2
end

-- `Parked`, `Transit`, `Owned` are `Card (…) n` (`Proofs/Basic`) written out, so that `Inv` states its censuses as
-- `c13_bound` does (a list without repetition of exactly the members); the proofs use them through `Card.*`

def Parked (thr : Nat → Loc) (i n : Nat) : Prop :=
  ∃ ts : List Nat, ts.Nodup ∧ (∀ t, t ∈ ts ↔ pointOf (thr t) = some i) ∧ ts.length = n

def Transit (thr : Nat → Loc) (n : Nat) : Prop :=
  ∃ ts : List Nat, ts.Nodup ∧ (∀ t, t ∈ ts ↔ transLoc (thr t) = true) ∧ ts.length = n

def Owned (s : St) (n : Nat) : Prop :=
  ∃ own : List Nat, own.Nodup ∧ (∀ i, i ∈ own ↔ Owns s i) ∧ own.length = n

/-- By block: free list (`free…`); unique handles (`uniq…`); counters (`rcSum`, `freedZero`); ownership (`rcOwns` …
    `ownRc`, the converse of `rcOwns` + `ddOwns`); calls in progress (`lentCount`); drop tail (`tail…`); slots in
    transit (`relOk` … `uU`); generations and drop log (`genLt` … `deadLogged`); the census `count`, four ways, in which
    a slot at `dDestroy` still counts as owned.  `dd…`: at `dDealloc` / `dDestroy`; `rel…`: at `dRelease`; `u…`: at
    `uDestroy` / `uRelease`, the unique-handle path; `relRel`, `relU`, `uU`: no slot is in transit twice. -/
structure Inv (s : St) : Prop where
  freeNodup : s.free.Nodup
  freeLt : ∀ x ∈ s.free, x < s.N
  uniqNodup : s.uniques.Nodup
  uniqOk : ∀ u ∈ s.uniques, u < s.N ∧ u ∉ s.free ∧ s.alive u = true
  rcSum : ∀ i, (getCB s i).rc = (getCB s i).live + (getCB s i).lent + (getCB s i).owed
  freedZero : ∀ i, (getCB s i).freed = true → (getCB s i).rc = 0
  rcOwns : ∀ i, (getCB s i).rc > 0 → Owns s i
  ddOwns : ∀ t i, ownTail (s.thr t) = some i → Owns s i
  ownOk : ∀ i, Owns s i → (getCB s i).freed = false ∧ (getCB s i).id < s.N ∧ (getCB s i).id ∉ s.free ∧
            (getCB s i).id ∉ s.uniques ∧ s.slot (getCB s i).id = (getCB s i).val
  ownInj : ∀ i j, Owns s i → Owns s j → (getCB s i).id = (getCB s j).id → i = j
  ownRc : ∀ i, Owns s i → (getCB s i).rc = 0 → ∃ t, ownTail (s.thr t) = some i
  lentCount : ∀ i, Parked s.thr i (getCB s i).lent
  tailOk : ∀ t i, tailOf (s.thr t) = some i → i < s.cbs.length ∧ (getCB s i).freed = false ∧ (getCB s i).rc = 0
  tailUniq : ∀ t u i, tailOf (s.thr t) = some i → tailOf (s.thr u) = some i → t = u
  relOk : ∀ t i, s.thr t = .dRelease i → (getCB s i).id < s.N ∧ (getCB s i).id ∉ s.free ∧
            (getCB s i).id ∉ s.uniques ∧ s.alive (getCB s i).id = false
  uOk : ∀ t x, uOf (s.thr t) = some x → x < s.N ∧ x ∉ s.free ∧ x ∉ s.uniques
  uDesOk : ∀ t x, s.thr t = .uDestroy x → s.alive x = true
  uRelOk : ∀ t x, s.thr t = .uRelease x → s.alive x = false ∧ (x, s.slotGen x, s.slot x) ∈ s.dropLog
  uOwn : ∀ t x i, uOf (s.thr t) = some x → Owns s i → (getCB s i).id ≠ x
  relRel : ∀ t u i j, s.thr t = .dRelease i → s.thr u = .dRelease j → (getCB s i).id = (getCB s j).id → t = u
  relU : ∀ t u i x, s.thr t = .dRelease i → uOf (s.thr u) = some x → (getCB s i).id ≠ x
  uU : ∀ t u x, uOf (s.thr t) = some x → uOf (s.thr u) = some x → t = u
  genLt : ∀ i, i < s.cbs.length → (getCB s i).gen < s.nextGen
  slotGenLt : ∀ j, s.slotGen j < s.nextGen
  genInj : ∀ j k, s.alive j = true → s.alive k = true → s.slotGen j = s.slotGen k → j = k
  logNodup : (s.dropLog.map (·.2.1)).Nodup
  logLt : ∀ e ∈ s.dropLog, e.2.1 < s.nextGen
  aliveNotLogged : ∀ j, s.alive j = true → s.slotGen j ∉ s.dropLog.map (·.2.1)
  deadLogged : ∀ i, i < s.cbs.length → ¬ Owns s i →
                 ((getCB s i).id, (getCB s i).gen, (getCB s i).val) ∈ s.dropLog
  count : ∃ a b, Owned s a ∧ Transit s.thr b ∧ a + s.uniques.length + b + s.free.length = s.N

theorem dflt_rc : dflt.rc = 0 := rfl

theorem card_setThr {s sd : St} {n : Nat} (p : Loc → Prop) [DecidablePred p] (t : Nat) (l : Loc) (hthr : sd.thr = s.thr)
    (h : Card (fun u => p (s.thr u)) n) :
    ∃ m, m + (if p (s.thr t) then 1 else 0) = n + (if p l then 1 else 0) ∧
      Card (fun u => p ((setThr sd t l).thr u)) m := by
  have e u : p ((setThr sd t l).thr u) ↔ if u = t then p l else p (s.thr u) := by rw [thr_setThr, hthr]; split <;> rfl
  by_cases h0 : p (s.thr t) <;> by_cases h1 : p l <;> simp only [h0, h1, if_true, if_false]
  · exact ⟨n, rfl, h.congr fun u => by rw [e]; split <;> simp [*]⟩
  · have := h.erase h0 (q := fun u => p ((setThr sd t l).thr u)) fun u => by rw [e]; split <;> simp [*]
    exact ⟨n - 1, by omega, this.1⟩
  · exact ⟨n + 1, rfl, h.insert h0 fun u => by rw [e]; split <;> simp [*]⟩
  · exact ⟨n, rfl, h.congr fun u => by rw [e]; split <;> simp [*]⟩

/-! ## the invariant, regrouped

`Inv` is stated flat, the way the property theorems read it.  A step changes the data and moves one thread, so the
proofs cut the same facts into `Data` (no thread mentioned; `freedZero` follows), `LocOK` per thread, two `Inj`, `ownRc`
and the censuses.  `Inv.of` alone builds an `Inv`; it is read through `h.data`, `h.owner`, `h.unique`, and `h.loc`,
`h.slotUniq`, the only readers of `relOk` … `uU`. -/

/-- control block `i` is in the drop tail (what `tailOk` says of it) -/
def TailOK (s : St) (i : Nat) : Prop := i < s.cbs.length ∧ (getCB s i).freed = false ∧ (getCB s i).rc = 0

/-- Slot `x` is on nobody's books: not free, no unique handle's, no owning block's.  So is a slot in transit, or between
    two owners (`Data.fresh`, `Data.erase` lead there; `Data.cons`, `Data.block`, `Data.release` away).  `owns` is
    `Owns s` here, `Owning s` for the property theorems (`inTransit_ok`, Proofs/HandlesProps). -/
def Unbooked (s : St) (x : Nat) (owns : Nat → Prop := Owns s) : Prop :=
  x < s.N ∧ x ∉ s.free ∧ x ∉ s.uniques ∧ ∀ i, owns i → (getCB s i).id ≠ x

section
variable {s : St} {x : Nat} {owns : Nat → Prop}
theorem Unbooked.lt (hx : Unbooked s x owns) : x < s.N := hx.1
theorem Unbooked.free (hx : Unbooked s x owns) : x ∉ s.free := hx.2.1
theorem Unbooked.uniq (hx : Unbooked s x owns) : x ∉ s.uniques := hx.2.2.1
theorem Unbooked.notOwned (hx : Unbooked s x owns) : ∀ i, owns i → (getCB s i).id ≠ x := hx.2.2.2
end

def transSlot (s : St) : Loc → Option Nat
  | .dRelease i => some (getCB s i).id
  | .uDestroy x | .uRelease x => some x
  | _ => none

def LocOK (s : St) : Loc → Prop
  | .dDealloc i | .dDestroy i => TailOK s i ∧ Owns s i
  | .dRelease i => TailOK s i ∧ Unbooked s (getCB s i).id ∧ s.alive (getCB s i).id = false
  | .dFree i => TailOK s i
  | .uDestroy x => Unbooked s x ∧ s.alive x = true
  | .uRelease x => Unbooked s x ∧ s.alive x = false ∧ (x, s.slotGen x, s.slot x) ∈ s.dropLog
  | _ => True

structure Data (s : St) : Prop where
  freeNodup : s.free.Nodup
  freeLt : ∀ x ∈ s.free, x < s.N
  uniqNodup : s.uniques.Nodup
  uniqOk : ∀ u ∈ s.uniques, u < s.N ∧ u ∉ s.free ∧ s.alive u = true
  rcSum : ∀ i, (getCB s i).rc = (getCB s i).live + (getCB s i).lent + (getCB s i).owed
  rcOwns : ∀ i, (getCB s i).rc > 0 → Owns s i
  ownOk : ∀ i, Owns s i → (getCB s i).freed = false ∧ (getCB s i).id < s.N ∧ (getCB s i).id ∉ s.free ∧
            (getCB s i).id ∉ s.uniques ∧ s.slot (getCB s i).id = (getCB s i).val
  ownInj : ∀ i j, Owns s i → Owns s j → (getCB s i).id = (getCB s j).id → i = j
  genLt : ∀ i, i < s.cbs.length → (getCB s i).gen < s.nextGen
  slotGenLt : ∀ j, s.slotGen j < s.nextGen
  genInj : ∀ j k, s.alive j = true → s.alive k = true → s.slotGen j = s.slotGen k → j = k
  logNodup : (s.dropLog.map (·.2.1)).Nodup
  logLt : ∀ e ∈ s.dropLog, e.2.1 < s.nextGen
  aliveNotLogged : ∀ j, s.alive j = true → s.slotGen j ∉ s.dropLog.map (·.2.1)
  deadLogged : ∀ i, i < s.cbs.length → ¬ Owns s i →
                 ((getCB s i).id, (getCB s i).gen, (getCB s i).val) ∈ s.dropLog

structure OwnOK (s : St) (i : Nat) : Prop where
  notFreed : (getCB s i).freed = false
  lt : (getCB s i).id < s.N
  free : (getCB s i).id ∉ s.free
  uniq : (getCB s i).id ∉ s.uniques
  val : s.slot (getCB s i).id = (getCB s i).val

structure UniqOK (s : St) (x : Nat) : Prop where
  lt : x < s.N
  free : x ∉ s.free
  alive : s.alive x = true

section
variable {s : St} {l : Loc} {i x : Nat}

theorem Data.owner (d : Data s) (ho : Owns s i) : OwnOK s i :=
  have ⟨notFreed, lt, free, uniq, val⟩ := d.ownOk i ho; { notFreed, lt, free, uniq, val }

theorem Data.unique (d : Data s) (hu : x ∈ s.uniques) : UniqOK s x :=
  have ⟨lt, free, alive⟩ := d.uniqOk x hu; { lt, free, alive }

theorem LocOK.tail (h : LocOK s l) (e : tailOf l = some i) : TailOK s i := by
  cases l <;> cases e <;> first | exact h | exact h.1

theorem LocOK.owns (h : LocOK s l) (e : ownTail l = some i) : Owns s i := by
  cases l <;> cases e <;> exact h.2

theorem LocOK.unbooked (h : LocOK s l) (e : transSlot s l = some x) : Unbooked s x := by
  cases l <;> cases e <;> first | exact h.1 | exact h.2.1

theorem transSlot_uOf (e : uOf l = some x) : transSlot s l = some x := by cases l <;> cases e <;> rfl

theorem transSlot_cases (e : transSlot s l = some x) :
    (∃ i, l = .dRelease i ∧ (getCB s i).id = x) ∨ uOf l = some x := by
  cases l <;> simp_all [transSlot, uOf]

theorem transLoc_eq (s : St) (l : Loc) : transLoc l = (transSlot s l).isSome := by cases l <;> rfl

theorem Inv.data (h : Inv s) : Data s := { h with }

theorem Inv.owner (h : Inv s) (ho : Owns s i) : OwnOK s i := h.data.owner ho

theorem Inv.unique (h : Inv s) (hu : x ∈ s.uniques) : UniqOK s x := h.data.unique hu

theorem Inv.loc (h : Inv s) (t : Nat) : LocOK s (s.thr t) := by
  have tl := h.tailOk t
  have ub x (e : uOf (s.thr t) = some x) : Unbooked s x :=
    have ⟨lt, free, uniq⟩ := h.uOk t x e
    ⟨lt, free, uniq, fun j => h.uOwn t x j e⟩
  cases hl : s.thr t <;> rw [hl] at tl ub <;> simp only [LocOK] <;> try trivial
  case dDealloc i | dDestroy i => exact ⟨tl i rfl, h.ddOwns t i (by rw [hl]; rfl)⟩
  case dFree i => exact tl i rfl
  case dRelease i =>
    have ⟨lt, free, uniq, dead⟩ := h.relOk t i hl
    -- no control block owns a dead slot
    exact ⟨tl i rfl, ⟨lt, free, uniq, fun j ho e => absurd ((e ▸ ho.alive).symm.trans dead) (by simp)⟩, dead⟩
  case uDestroy x => exact ⟨ub x rfl, h.uDesOk t x hl⟩
  case uRelease x => exact ⟨ub x rfl, h.uRelOk t x hl⟩

theorem Inv.tailInj (h : Inv s) : Inj fun t => tailOf (s.thr t) := h.tailUniq

theorem Inv.slotUniq (h : Inv s) : Inj fun t => transSlot s (s.thr t) := by
  intro t u x e1 e2
  rcases transSlot_cases e1 with ⟨i, a, rfl⟩ | a <;> rcases transSlot_cases e2 with ⟨j, b, e⟩ | b
  · exact h.relRel t u i j a b e.symm
  · exact (h.relU t u i _ a b rfl).elim
  · exact (h.relU u t j x b a e).elim
  · exact h.uU t u x a b

theorem Inv.of (d : Data s) (loc : ∀ t, LocOK s (s.thr t)) (tailUniq : Inj fun t => tailOf (s.thr t))
    (slotUniq : Inj fun t => transSlot s (s.thr t))
    (ownRc : ∀ i, Owns s i → (getCB s i).rc = 0 → ∃ t, ownTail (s.thr t) = some i)
    (lentCount : ∀ i, Parked s.thr i (getCB s i).lent)
    (count : ∃ a b, Owned s a ∧ Transit s.thr b ∧ a + s.uniques.length + b + s.free.length = s.N) : Inv s :=
  { d with
    ownRc, lentCount, count, tailUniq
    -- a positive counter owns, and what owns is not freed
    freedZero := fun i hf => Nat.eq_zero_of_not_pos fun hz =>
      absurd (d.owner (d.rcOwns i hz)).notFreed (by simp [hf])
    ddOwns := fun t _ e => (loc t).owns e
    tailOk := fun t _ e => (loc t).tail e
    relOk := fun t i e => by
      have ⟨_, hx, dead⟩ : LocOK s (.dRelease i) := e ▸ loc t
      exact ⟨hx.lt, hx.free, hx.uniq, dead⟩
    uOk := fun t x e => have hx := (loc t).unbooked (transSlot_uOf e); ⟨hx.lt, hx.free, hx.uniq⟩
    uDesOk := fun t x e => (show LocOK s (.uDestroy x) from e ▸ loc t).2
    uRelOk := fun t x e => (show LocOK s (.uRelease x) from e ▸ loc t).2
    uOwn := fun t x i e => ((loc t).unbooked (transSlot_uOf e)).notOwned i
    relRel := fun t u i j e1 e2 e =>
      slotUniq t u _ (congrArg (transSlot s) e1) ((congrArg (transSlot s) e2).trans (congrArg some e.symm))
    relU := fun t u i x e1 e2 e => by
      have := slotUniq t u x ((congrArg (transSlot s) e1).trans (congrArg some e)) (transSlot_uOf e2)
      rw [← this, e1] at e2; cases e2
    uU := fun t u x e1 e2 => slotUniq t u x (transSlot_uOf e1) (transSlot_uOf e2) }
end

/-! ## what a step from `s` to `setThr sd t l` has to show -/

theorem ownTail_tail {l : Loc} {i : Nat} (h : ownTail l = some i) : tailOf l = some i := by
  cases l <;> cases h <;> rfl

/-- The data `sd` differ from `s` only in what a thread at `l₀` holds.  Every field but `unbooked` defaults to "the step
    does not touch this component", so a `Frame.*` lemma names what its transformer changes; `unbooked` depends on
    `free`, `uniques`, `cbs` and `alive`, and every transformer writes one of them. -/
structure Frame (s sd : St) (l₀ : Loc) : Prop where
  thr : sd.thr = s.thr := by rfl
  N : sd.N = s.N := by rfl
  id : ∀ j, j < s.cbs.length → (getCB sd j).id = (getCB s j).id := by exact fun _ _ => rfl
  tail : ∀ j, tailOf l₀ ≠ some j → TailOK s j → TailOK sd j := by exact fun _ _ hj => hj
  own : ∀ j, tailOf l₀ ≠ some j → Owns s j → Owns sd j := by exact fun _ _ ho => ho
  unbooked : ∀ y, transSlot s l₀ ≠ some y → Unbooked s y → Unbooked sd y
  alive : ∀ y, transSlot s l₀ ≠ some y → Unbooked s y → sd.alive y = s.alive y := by exact fun _ _ _ => rfl
  logged : ∀ y, transSlot s l₀ ≠ some y → Unbooked s y → (y, s.slotGen y, s.slot y) ∈ s.dropLog →
    (y, sd.slotGen y, sd.slot y) ∈ sd.dropLog := by exact fun _ _ _ e => e

theorem Frame.refl (s : St) (l₀ : Loc) : Frame s s l₀ where
  unbooked _ _ hy := hy

section
variable {s sd : St} {l₀ l : Loc}

theorem transSlot_frame (fr : Frame s sd l₀) (h : LocOK s l) : transSlot sd l = transSlot s l := by
  cases l <;> try rfl
  exact congrArg some (fr.id _ h.1.1)

theorem LocOK.setThr (h : LocOK s l) (t : Nat) (l' : Loc) : LocOK (setThr s t l') l := by cases l <;> exact h

theorem LocOK.mono (h : LocOK s l) (fr : Frame s sd l₀) (h1 : ∀ j, tailOf l = some j → tailOf l₀ ≠ some j)
    (h2 : ∀ y, transSlot s l = some y → transSlot s l₀ ≠ some y) : LocOK sd l := by
  have unbooked y (e : transSlot s l = some y) := fr.unbooked y (h2 y e) (h.unbooked e)
  have alive y (e : transSlot s l = some y) := fr.alive y (h2 y e) (h.unbooked e)
  cases l <;> simp only [LocOK] at h ⊢ <;> try trivial
  case dDealloc j | dDestroy j => exact ⟨fr.tail j (h1 j rfl) h.1, fr.own j (h1 j rfl) h.2⟩
  case dFree j => exact fr.tail j (h1 j rfl) h
  case dRelease j =>
    rw [fr.id j h.1.1]; exact ⟨fr.tail j (h1 j rfl) h.1, unbooked _ rfl, (alive _ rfl).trans h.2.2⟩
  case uDestroy x => exact ⟨unbooked x rfl, (alive x rfl).trans h.2⟩
  case uRelease x => exact ⟨unbooked x rfl, (alive x rfl).trans h.2.1, fr.logged x (h2 x rfl) h.1 h.2.2⟩
end

/-- `tail`, `slot`: what `l` holds, the thread held at `l₀` already, or nobody can have held: the block was not in the
    drop tail (`¬ TailOK`), the slot was on somebody's books (`¬ Unbooked`).  `ownRc`: the thread that `Inv.ownRc` asks
    for is still there.  `lent`, `count`: the censuses move (`card_setThr`) by the difference of the counters.  The
    defaults are those of an `l` that holds nothing (`loc`, `tail`, `slot`) and of untouched `lent`s. -/
structure Moves (s sd : St) (l₀ l : Loc) : Prop where
  loc : LocOK sd l := by trivial
  tail : ∀ i, tailOf l = some i → tailOf l₀ = some i ∨ ¬ TailOK s i := by nofun
  slot : ∀ x, transSlot sd l = some x → transSlot s l₀ = some x ∨ ¬ Unbooked s x := by nofun
  ownRc : ∀ i, Owns sd i → (getCB sd i).rc = 0 →
    ownTail l = some i ∨ Owns s i ∧ (getCB s i).rc = 0 ∧ ownTail l₀ ≠ some i
  lent : ∀ i, (getCB sd i).lent + (if pointOf l₀ = some i then 1 else 0) =
    (getCB s i).lent + if pointOf l = some i then 1 else 0 := by intro; rfl
  count : ∀ a, Owned s a → ∃ a', Owned sd a' ∧
    a' + sd.uniques.length + (if transLoc l then 1 else 0) + sd.free.length =
      a + s.uniques.length + (if transLoc l₀ then 1 else 0) + s.free.length

theorem Inv.after {s sd : St} {t : Nat} {l₀ l : Loc} (h : Inv s) (ht : s.thr t = l₀) (fr : Frame s sd l₀) (d : Data sd)
    (mv : Moves s sd l₀ l) : Inv (setThr sd t l) := by
  subst ht
  have thr u (hu : u ≠ t) : (setThr sd t l).thr u = s.thr u := by rw [thr_setThr, if_neg hu, fr.thr]
  have me : (setThr sd t l).thr t = l := by rw [thr_setThr, if_pos rfl]
  refine Inv.of { d with } (fun u => ?_)
    (h.tailInj.set (fun u hu => by rw [thr u hu]) fun i e =>
      (mv.tail i (me ▸ e)).imp id fun n u hu => n ((h.loc u).tail hu))
    (h.slotUniq.set (fun u hu => by rw [thr u hu]; exact transSlot_frame (sd := sd) fr (h.loc u))
      fun x e => (mv.slot x (me ▸ e)).imp id fun n u hu => n ((h.loc u).unbooked hu))
    (fun i ho hz => ?_) (fun i => ?_) ?_
  · by_cases e : u = t
    · rw [e, me]; exact mv.loc.setThr t l
    · rw [thr u e]
      refine LocOK.setThr (.mono (h.loc u) fr (fun j hu h0 => ?_) fun y hu h0 => ?_) t l
      · exact e (h.tailUniq u t j hu h0)
      · exact e (h.slotUniq u t y hu h0)
  · rcases mv.ownRc i ho hz with e | ⟨ho', hz', hne⟩
    · exact ⟨t, by rw [me]; exact e⟩
    · obtain ⟨u, hu⟩ := h.ownRc i ho' hz'
      exact ⟨u, by rw [thr u (by rintro rfl; exact hne hu)]; exact hu⟩
  · obtain ⟨m, hm, c⟩ := card_setThr (pointOf · = some i) t l fr.thr (h.lentCount i)
    obtain rfl : m = (getCB sd i).lent := by have := mv.lent i; omega
    exact c
  · obtain ⟨a, b, ha, hb, e⟩ := h.count
    obtain ⟨a', ha', e'⟩ := mv.count a ha
    obtain ⟨b', hb', c⟩ := card_setThr (transLoc · = true) t l fr.thr hb
    exact ⟨a', b', ha', c, by have := fr.N; show a' + sd.uniques.length + b' + sd.free.length = sd.N; omega⟩

/-- thread `t` moves between locations that hold the same (the defaults); the data are untouched -/
theorem Inv.move {s : St} (h : Inv s) {t : Nat} {l₀ l : Loc} (ht : s.thr t = l₀) (hl : LocOK s l := by trivial)
    (hp : pointOf l = pointOf l₀ := by rfl) (htl : tailOf l = tailOf l₀ := by rfl)
    (ho : ownTail l = ownTail l₀ := by rfl) (hs : transSlot s l = transSlot s l₀ := by rfl) : Inv (setThr s t l) :=
  h.after ht (.refl s l₀) h.data
    { loc := hl, tail := fun i e => .inl (htl ▸ e), slot := fun x e => .inl (hs ▸ e)
      ownRc := fun i hi hz => (Decidable.em _).imp id fun e => ⟨hi, hz, ho ▸ e⟩, lent := fun i => by rw [hp]
      count := fun a ha => ⟨a, ha, by rw [transLoc_eq s, transLoc_eq s, hs]⟩ }

/-! ## one control block is rewritten -/

/-- `f` leaves alone what ownership is made of -/
def Keeps (f : CB → CB) : Prop := ∀ c, (f c).id = c.id ∧ (f c).gen = c.gen ∧ (f c).val = c.val

/-- where `Inv.counters` moves a thread: outside any call, in a call on control block `i`, or, having seen its counter
    reach 0, at `dDealloc i`; no slot in transit is held there -/
def CallLoc (i : Nat) : Loc → Prop
  | .idle | .done _ => True
  | .clone j | .inc j _ | .dDec j | .count j | .dDealloc j => j = i
  | _ => False

section
variable {i j : Nat} {l : Loc}

theorem CallLoc.transLoc (cl : CallLoc i l) : transLoc l = false := by cases l <;> first | rfl | exact cl.elim
theorem CallLoc.point (cl : CallLoc i l) (e : pointOf l = some j) : j = i := by cases l <;> cases e <;> exact cl
theorem CallLoc.tail (cl : CallLoc i l) (e : tailOf l = some j) : j = i := by
  cases l <;> cases e <;> first | exact cl | exact cl.elim

theorem CallLoc.locOK {s : St} (cl : CallLoc i l) (h : l = .dDealloc i → TailOK s i ∧ Owns s i) : LocOK s l := by
  cases l <;> first | trivial | exact cl.elim | (cases cl; exact h rfl)
end

theorem transSlot_none {l : Loc} (s : St) (h : transLoc l = false) : transSlot s l = none := by
  cases l <;> first | rfl | cases h

section
variable {s : St} {i : Nat} {f : CB → CB}

theorem getCB_updCB_self (f : CB → CB) (hi : i < s.cbs.length) : getCB (updCB s i f) i = f (getCB s i) := by
  rw [getCB_updCB, if_pos ⟨rfl, hi⟩]

theorem getCB_updCB_ne (f : CB → CB) {j : Nat} (hj : j ≠ i) : getCB (updCB s i f) j = getCB s j := by
  rw [getCB_updCB, if_neg fun h => hj h.1]

theorem getCB_updCB_or (s : St) (i : Nat) (f : CB → CB) (j : Nat) :
    getCB (updCB s i f) j = getCB s j ∨ j = i ∧ getCB (updCB s i f) j = f (getCB s i) := by
  rw [getCB_updCB]; split
  next h => exact .inr ⟨h.1, rfl⟩
  next => exact .inl rfl

theorem keeps_updCB (hf : Keeps f) (j : Nat) : (getCB (updCB s i f) j).id = (getCB s j).id ∧
    (getCB (updCB s i f) j).gen = (getCB s j).gen ∧ (getCB (updCB s i f) j).val = (getCB s j).val := by
  rcases getCB_updCB_or s i f j with e | ⟨rfl, e⟩ <;> rw [e] <;> first | exact ⟨rfl, rfl, rfl⟩ | exact hf _

theorem owns_updCB (hf : Keeps f) (j : Nat) : Owns (updCB s i f) j ↔ Owns s j := by
  simp only [Owns, (keeps_updCB hf j).1, (keeps_updCB hf j).2.1, length_updCB, alive_updCB, slotGen_updCB]

/-- `hsum`, `hfo`, `hro`: `rcSum`, `ownOk`'s `freed = false`, `rcOwns` of the new block; `Keeps f` sees to the rest -/
theorem Data.updCB (d : Data s) (hf : Keeps f) {c : CB} (hci : getCB s i = c)
    (hsum : (f c).rc = (f c).live + (f c).lent + (f c).owed) (hfo : Owns s i → (f c).freed = false)
    (hro : 0 < (f c).rc → Owns s i) : Data (updCB s i f) :=
  have owns_iff := owns_updCB (s := s) (i := i) hf
  have get := getCB_updCB s i f
  have keep := keeps_updCB (s := s) (i := i) hf
  have kf := hf (getCB s i)
  { d with
    rcSum := fun j => by have := d.rcSum j; grind
    rcOwns := fun j hr => (owns_iff j).2 (by have := d.rcOwns j; grind)
    ownOk := fun j ho => by have := d.ownOk j ((owns_iff j).1 ho); have := (owns_iff j).1 ho; grind
    ownInj := fun j j' hj hj' e =>
      d.ownInj j j' ((owns_iff j).1 hj) ((owns_iff j').1 hj') (by rwa [(keep j).1, (keep j').1] at e)
    genLt := fun j hj => by rw [(keep j).2.1]; exact d.genLt j (by rwa [length_updCB] at hj)
    deadLogged := fun j hj hn => by
      rw [(keep j).1, (keep j).2.1, (keep j).2.2]
      exact d.deadLogged j (by rwa [length_updCB] at hj) fun ho => hn ((owns_iff j).2 ho) }

theorem Frame.updCB (hf : Keeps f) {l₀ : Loc} (hne : ∀ j, tailOf l₀ ≠ some j → TailOK s j → j ≠ i) :
    Frame s (updCB s i f) l₀ where
  id j _ := (keeps_updCB hf j).1
  tail j h0 hj := by unfold TailOK; rw [getCB_updCB_ne f (hne j h0 hj), length_updCB]; exact hj
  own j _ := (owns_updCB hf j).2
  unbooked y _ hy := ⟨hy.lt, hy.free, hy.uniq, fun j ho => by
    rw [(keeps_updCB hf j).1]; exact hy.notOwned j ((owns_updCB hf j).1 ho)⟩
end

/-- What an operation shows that takes the counters of block `i` from `c` to `c'` and its thread from `l₀` to `l`.
    `pos`: it had a handle to work on, so the block still counted.  `lent` follows the thread, as it counts the calls in
    progress.  `tail`: whoever brings the counter to 0, and nobody else, goes on to `dDealloc i`. -/
structure Counts (i : Nat) (l₀ l : Loc) (c c' : CB) : Prop where
  pos : 0 < c.rc
  lent : c'.lent + (if pointOf l₀ = some i then 1 else 0) = c.lent + if pointOf l = some i then 1 else 0
  sum : c'.rc = c'.live + c'.lent + c'.owed
  tail : c'.rc = 0 ↔ l = .dDealloc i

/-- Thread `t`, outside the drop tail, moves between two `CallLoc`s of `i` while `f` rewrites the counters of `i`.
    `hc` may use the sum of the old counters and, if `t` is one of the calls in progress, `lent ≥ 1`.  Defaults: `f`
    leaves the other fields alone (`hf`, `hfr`); `cl₀`, `h0`, `cl` are computed from the locations. -/
theorem Inv.counters {s : St} {i : Nat} {f : CB → CB} (h : Inv s) {t : Nat} {l₀ l : Loc} (ht : s.thr t = l₀)
    (hc : (getCB s i).rc = (getCB s i).live + (getCB s i).lent + (getCB s i).owed →
      (if pointOf l₀ = some i then 1 else 0) ≤ (getCB s i).lent → Counts i l₀ l (getCB s i) (f (getCB s i)))
    (hf : Keeps f := by exact fun _ => ⟨rfl, rfl, rfl⟩) (hfr : ∀ c, (f c).freed = c.freed := by exact fun _ => rfl)
    (cl₀ : CallLoc i l₀ := by trivial) (h0 : tailOf l₀ = none := by rfl) (cl : CallLoc i l := by trivial) :
    Inv (setThr (updCB s i f) t l) := by
  obtain ⟨hrc, hlent, hsum, htail⟩ := hc (h.rcSum i) (by
    split
    · exact Card.pos (h.lentCount i) (k := t) (by rwa [ht])
    · exact Nat.zero_le _)
  have oi := h.rcOwns i hrc
  have nf := (h.owner oi).notFreed
  have self := getCB_updCB_self f oi.lt
  refine h.after ht (.updCB hf fun j _ hj => by rintro rfl; have := hj.2.2; omega)
    (h.data.updCB hf rfl hsum (fun _ => (hfr _).trans nf) fun _ => oi)
    { loc := cl.locOK fun e =>
        ⟨⟨by rw [length_updCB]; exact oi.lt, by rw [self, hfr]; exact nf, by rw [self]; exact htail.2 e⟩,
          (owns_updCB hf i).2 oi⟩
      tail := fun j e => .inr fun hj => by cases cl.tail e; have := hj.2.2; omega
      slot := fun x e => by rw [transSlot_none _ cl.transLoc] at e; cases e
      ownRc := fun j ho hz => ?_, lent := fun j => ?_
      count := fun a ha => ⟨a, Card.congr ha (owns_updCB hf), by rw [cl.transLoc, cl₀.transLoc]; rfl⟩ }
  · by_cases e : j = i
    · subst e; rw [self] at hz; exact .inl (htail.1 hz ▸ rfl)
    · rw [getCB_updCB_ne f e] at hz
      exact .inr ⟨(owns_updCB hf j).1 ho, hz, fun e => by rw [ownTail_tail e] at h0; cases h0⟩
  · by_cases e : j = i
    · subst e; rw [self]; exact hlent
    · rw [getCB_updCB_ne f e, if_neg fun e' => e (cl₀.point e'), if_neg fun e' => e (cl.point e')]

/-! ## `dealloc_id`: the destructor runs, then the slot goes back to the free list -/

theorem owns_destroy {s : St} {x j : Nat} : Owns (destroy s x) j ↔ Owns s j ∧ (getCB s j).id ≠ x := by
  simp only [Owns, cbs_destroy, getCB_destroy, alive_destroy, slotGen_destroy]
  by_cases e : (getCB s j).id = x <;> simp [e]

section
variable {s : St} {x : Nat} {l₀ : Loc}

theorem Data.destroy (d : Data s) (hx : s.alive x = true) (hu : x ∉ s.uniques)
    (hro : ∀ j, 0 < (getCB s j).rc → (getCB s j).id ≠ x) : Data (destroy s x) :=
  { d with
    uniqOk := fun u hm => by have := d.uniqOk u hm; grind
    rcOwns := fun j hr => owns_destroy.2 ⟨d.rcOwns j hr, hro j hr⟩
    ownOk := fun j ho => d.ownOk j (owns_destroy.1 ho).1
    ownInj := fun j k hj hk => d.ownInj j k (owns_destroy.1 hj).1 (owns_destroy.1 hk).1
    genInj := fun j k hj hk => by have := d.genInj j k; grind
    logNodup := by
      rw [dropLog_destroy, List.map_append]; exact nodup_snoc.2 ⟨d.logNodup, d.aliveNotLogged x hx⟩
    logLt := fun e he => by have := d.logLt e; have := d.slotGenLt x; grind
    aliveNotLogged := fun j hj => by
      have := d.aliveNotLogged j; have := d.genInj j x
      simp only [dropLog_destroy, List.map_append, List.map_cons, List.map_nil, List.mem_append, List.mem_singleton]
      grind
    deadLogged := fun j hj hn => by
      -- a control block that stops owning here owned `x`: its entry is the one appended
      by_cases ho : Owns s j
      · have e : (getCB s j).id = x := Decidable.byContradiction fun e => hn (owns_destroy.2 ⟨ho, e⟩)
        subst e
        show (_, (getCB s j).gen, (getCB s j).val) ∈ s.dropLog ++ [_]
        rw [← ho.gen, ← (d.owner ho).val]; exact List.mem_append_right _ (List.mem_singleton.2 rfl)
      · exact List.mem_append_left _ (d.deadLogged j hj ho) }

theorem Frame.destroy (h1 : ∀ j, tailOf l₀ ≠ some j → Owns s j → (getCB s j).id ≠ x)
    (h2 : ∀ y, transSlot s l₀ ≠ some y → Unbooked s y → y ≠ x) : Frame s (destroy s x) l₀ where
  own j h0 ho := owns_destroy.2 ⟨ho, h1 j h0 ho⟩
  unbooked y _ hy := ⟨hy.lt, hy.free, hy.uniq, fun j ho => hy.notOwned j (owns_destroy.1 ho).1⟩
  alive y h0 hy := by rw [alive_destroy, if_neg (h2 y h0 hy)]
  logged _ _ _ := List.mem_append_left _

theorem Data.release (d : Data s) (hx : Unbooked s x) (hd : s.alive x = false) : Data (release s x) :=
  have hN := hx.lt
  { d with
    freeNodup := nodup_snoc.2 ⟨d.freeNodup, hx.free⟩
    freeLt := fun y hy => by have := d.freeLt y; grind
    uniqOk := fun u hu => by have := d.uniqOk u hu; grind
    ownOk := fun j ho => by have := d.ownOk j ho; have := ho.alive; grind }

theorem Frame.release (h : transSlot s l₀ = some x) : Frame s (release s x) l₀ where
  unbooked y h0 hy := ⟨hy.lt, by have : y ≠ x := fun e => h0 (e ▸ h); simp [hy.free, this], hy.uniq, hy.notOwned⟩

/-- `pa.dealloc.free`: the holder of the dead slot `x` pushes it onto the free list.  The defaults: `l₀` holds `x`, in
    no call and with nothing left to destroy; `l` holds what `l₀` holds otherwise. -/
theorem Inv.release (h : Inv s) {t : Nat} {l : Loc} (ht : s.thr t = l₀) (hd : s.alive x = false)
    (hl : LocOK s l := by trivial) (hs : transSlot s l₀ = some x := by rfl) (hl' : transLoc l = false := by rfl)
    (hp : pointOf l = pointOf l₀ := by rfl) (htl : tailOf l = tailOf l₀ := by rfl) (ho : ownTail l₀ = none := by rfl) :
    Inv (setThr (release s x) t l) :=
  h.after ht (.release hs) (h.data.release ((ht ▸ h.loc t).unbooked hs) hd)
    { loc := by cases l <;> first | exact hl | cases hl'
      tail := fun i e => .inl (htl ▸ e), slot := fun y e => by rw [transSlot_none _ hl'] at e; cases e
      ownRc := fun j hj hz => .inr ⟨hj, hz, by rw [ho]; nofun⟩, lent := fun j => by rw [hp]; rfl
      count := fun a ha => ⟨a, ha, by simp [hl', transLoc_eq s l₀, hs]; omega⟩ }
end

/-! ## allocation; the slot of a unique handle passes to a new control block -/

section
variable {s : St} {x : Nat} {rest : List Nat} {l₀ : Loc}

/-- a slot taken from the free list belongs to no control block, before or after -/
theorem owns_allocSt (v : Nat) (d : Data s) (hf : s.free = x :: rest) (j : Nat) :
    Owns (allocSt s v x rest) j ↔ Owns s j := by
  have := d.genLt j; have := d.ownOk j; rw [hf] at this
  simp only [Owns, cbs_allocSt, getCB_allocSt, alive_allocSt, slotGen_allocSt] at this ⊢; grind

theorem Data.fresh (d : Data s) (v : Nat) (hf : s.free = x :: rest) :
    Data (allocSt s v x rest) ∧ Unbooked (allocSt s v x rest) x := by
  have hnd := d.freeNodup; rw [hf, List.nodup_cons] at hnd
  have hx : x ∈ s.free := hf ▸ List.mem_cons_self
  have owns_iff := owns_allocSt v d hf
  have fl := d.freeLt; have uo := d.uniqOk; have oo := d.ownOk; rw [hf] at fl uo oo
  refine ⟨?_, d.freeLt x hx, hnd.1, fun hu => (d.unique hu).free hx,
    fun j ho e => (d.owner ((owns_iff j).1 ho)).free (e ▸ hx)⟩
  exact { d with
    freeNodup := hnd.2
    freeLt := fun y hy => by have := fl y; grind
    uniqOk := fun u hu => by have := uo u hu; grind
    rcOwns := fun j hr => (owns_iff j).2 (d.rcOwns j hr)
    ownOk := fun j ho => by have := oo j ((owns_iff j).1 ho); grind
    ownInj := fun j k hj hk => d.ownInj j k ((owns_iff j).1 hj) ((owns_iff k).1 hk)
    genLt := fun j hj => Nat.lt_succ_of_lt (d.genLt j hj)
    slotGenLt := fun j => by have := d.slotGenLt j; grind
    -- the fresh generation is above every generation in a slot or in the log
    genInj := fun j k => by have inj := d.genInj j k; have ltj := d.slotGenLt j; have ltk := d.slotGenLt k; grind
    logLt := fun e he => Nat.lt_succ_of_lt (d.logLt e he)
    aliveNotLogged := fun j => by have := d.aliveNotLogged j; have := d.logLt; grind
    deadLogged := fun j hj hn => d.deadLogged j hj fun ho => hn ((owns_iff j).2 ho) }

theorem Data.cons (d : Data s) (hx : Unbooked s x) (ha : s.alive x = true) :
    Data (withUniques s (x :: s.uniques)) := by
  obtain ⟨hlt, hfree, huniq, hown⟩ := hx
  exact { d with
    uniqNodup := List.nodup_cons.2 ⟨huniq, d.uniqNodup⟩
    uniqOk := fun u hu => by have := d.uniqOk u; grind
    ownOk := fun j ho => by have := d.ownOk j ho; have := hown j ho; grind }

theorem Unbooked.ne_head {y : Nat} (hy : Unbooked s y) (hf : s.free = x :: rest) : y ≠ x :=
  fun e => hy.free (hf ▸ e ▸ List.mem_cons_self)

theorem Frame.alloc {v : Nat} (d : Data s) (hf : s.free = x :: rest) :
    Frame s (withUniques (allocSt s v x rest) (x :: s.uniques)) l₀ where
  own j _ := (owns_allocSt v d hf j).2
  unbooked y _ hy := ⟨hy.lt, fun hm => hy.free (hf ▸ List.mem_cons_of_mem _ hm), by simp [hy.ne_head hf, hy.uniq],
    fun j ho => hy.notOwned j ((owns_allocSt v d hf j).1 ho)⟩
  alive y _ hy := by simp [hy.ne_head hf]
  logged y _ hy := by simp [hy.ne_head hf]

/-- `OgreUnique::new` / raw `alloc_with`, pool not empty -/
theorem Inv.newUnique {v : Nat} (h : Inv s) {t : Nat} (ht : s.thr t = .idle) (hf : s.free = x :: rest) :
    Inv (setThr (withUniques (allocSt s v x rest) (x :: s.uniques)) t (.done (.unique x))) := by
  have owns_iff := owns_allocSt v h.data hf
  have ⟨d, hx⟩ := h.data.fresh v hf
  exact h.after ht (.alloc h.data hf) (d.cons hx (if_pos rfl))
    { ownRc := fun j ho hz => .inr ⟨(owns_iff j).1 ho, hz, nofun⟩
      count := fun a ha => ⟨a, Card.congr ha owns_iff, by simp [hf, transLoc]; omega⟩ }
end

theorem owns_pushCB {s : St} {c : CB} (ha : s.alive c.id = true) (hg : c.gen = s.slotGen c.id) (j : Nat) :
    Owns (pushCB s c) j ↔ Owns s j ∨ j = s.cbs.length := by
  simp only [Owns, length_pushCB, getCB_pushCB, alive_pushCB, slotGen_pushCB]; grind

section
variable {s : St} {x : Nat} {c : CB} {l₀ : Loc}

theorem not_mem_erase {y : Nat} (hy : y ∉ s.uniques) : y ∉ s.uniques.erase x := fun hm => hy (List.mem_of_mem_erase hm)

theorem Data.erase (d : Data s) (hx : x ∈ s.uniques) :
    Data (withUniques s (s.uniques.erase x)) ∧ Unbooked (withUniques s (s.uniques.erase x)) x :=
  ⟨{ d with
    uniqNodup := d.uniqNodup.erase x
    uniqOk := fun u hu => d.uniqOk u (List.mem_of_mem_erase hu)
    ownOk := fun j ho => have ⟨nf, lt, free, uniq, val⟩ := d.ownOk j ho; ⟨nf, lt, free, not_mem_erase uniq, val⟩ },
   (d.unique hx).lt, (d.unique hx).free, fun hm => ((d.uniqNodup.mem_erase_iff).1 hm).1 rfl,
   fun _ ho e => (d.owner ho).uniq (e ▸ hx)⟩

theorem Frame.erase : Frame s (withUniques s (s.uniques.erase x)) l₀ where
  unbooked _ _ hy := ⟨hy.lt, hy.free, not_mem_erase hy.uniq, hy.notOwned⟩

/-- the control block of a new shared handle: `k` references to slot `x` -/
def newCB (x k v g : Nat) : CB :=
  { id := x, rc := k, live := k, lent := 0, owed := 0, freed := false, val := v, gen := g }

/-- `newCB x k v g` records what is in the slot of the unique handle `x` -/
structure Adopts (s : St) (x v g : Nat) : Prop where
  mem : x ∈ s.uniques
  val : v = s.slot x
  gen : g = s.slotGen x

theorem getCB_adopt (j : Nat) :
    getCB (pushCB (withUniques s (s.uniques.erase x)) c) j = if j = s.cbs.length then c else getCB s j :=
  getCB_pushCB _ c j

theorem Data.block (d : Data s) (hc : Unbooked s c.id) (h1 : s.alive c.id = true) (hval : c.val = s.slot c.id)
    (hgen : c.gen = s.slotGen c.id) (hfr : c.freed = false) (hsum : c.rc = c.live + c.lent + c.owed) :
    Data (Handles.pushCB s c) := by
  obtain ⟨hlt, hfree, huniq, hown⟩ := hc
  have get := getCB_pushCB s c
  have owns_iff := owns_pushCB h1 hgen
  have lt j (ho : Owns s j) : j < s.cbs.length := ho.lt
  exact { d with
    rcSum := fun j => by have := d.rcSum j; grind
    rcOwns := fun j hr => (owns_iff j).2 (by have := d.rcOwns j; grind)
    ownOk := fun j ho => by have := d.ownOk j; have := lt j; have := (owns_iff j).1 ho; grind
    ownInj := fun j k hj hk => by
      -- old blocks: `d.ownInj`; no old block owns the new one's slot (`hown`)
      have old := d.ownInj j k; have nj := hown j; have nk := hown k; have ltj := lt j; have ltk := lt k
      have oj := (owns_iff j).1 hj; have ok := (owns_iff k).1 hk; grind
    genLt := fun j hj => by have := d.genLt j; have := d.slotGenLt c.id; grind
    deadLogged := fun j hj hn => by have := d.deadLogged j; have := owns_iff j; grind }

variable {k v g : Nat}

theorem owns_adopt (d : Data s) (a : Adopts s x v g) (j : Nat) :
    Owns (pushCB (withUniques s (s.uniques.erase x)) (newCB x k v g)) j ↔ Owns s j ∨ j = s.cbs.length :=
  owns_pushCB (d.unique a.mem).alive a.gen j

theorem Data.adopt (d : Data s) (a : Adopts s x v g) :
    Data (pushCB (withUniques s (s.uniques.erase x)) (newCB x k v g)) :=
  (d.erase a.mem).1.block (c := newCB x k v g) (d.erase a.mem).2 (d.unique a.mem).alive a.val a.gen rfl rfl

theorem Frame.adopt (d : Data s) (a : Adopts s x v g) :
    Frame s (pushCB (withUniques s (s.uniques.erase x)) (newCB x k v g)) l₀ where
  id j hj := by rw [getCB_adopt, if_neg (Nat.ne_of_lt hj)]
  tail j _ hj := by
    unfold TailOK; rw [getCB_adopt, if_neg (Nat.ne_of_lt hj.1), length_pushCB]; exact ⟨Nat.lt_succ_of_lt hj.1, hj.2⟩
  own j _ ho := (owns_adopt d a j).2 (.inl ho)
  unbooked y _ hy := ⟨hy.lt, hy.free, not_mem_erase hy.uniq, fun j ho => by
    rcases (owns_adopt d a j).1 ho with ho | rfl
    · rw [getCB_adopt, if_neg (Nat.ne_of_lt ho.lt)]; exact hy.notOwned j ho
    · rw [getCB_adopt, if_pos rfl]; rintro rfl; exact hy.uniq a.mem⟩

/-- `into_ogre_arc` (`k = 1`), and the second half of `OgreArc::new` (`Inv.newArc`).  Defaults: `l₀` holds nothing. -/
theorem Inv.adopt (h : Inv s) (a : Adopts s x v g) {t : Nat} {r : Res} (hk : 0 < k) (ht : s.thr t = l₀)
    (h0 : tailOf l₀ = none := by rfl) (h0' : transLoc l₀ = false := by rfl) (hp : pointOf l₀ = none := by rfl) :
    Inv (setThr (pushCB (withUniques s (s.uniques.erase x)) (newCB x k v g)) t (.done r)) := by
  have owns_iff := owns_adopt (k := k) h.data a
  refine h.after ht (.adopt h.data a) (h.data.adopt a)
    { ownRc := fun j ho hz => ?_, lent := fun j => ?_
      count := fun n hn => ⟨n + 1, Card.insert hn (fun hx => Nat.lt_irrefl _ hx.1) owns_iff, by
        have := List.length_pos_of_mem a.mem
        rw [h0']; simp [transLoc, List.length_erase_of_mem a.mem]; omega⟩ }
  · rw [getCB_adopt] at hz
    rcases (owns_iff j).1 ho with ho | rfl
    · rw [if_neg (Nat.ne_of_lt ho.lt)] at hz
      exact .inr ⟨ho, hz, fun e => by rw [ownTail_tail e] at h0; cases h0⟩
    · rw [if_pos rfl] at hz; exact absurd hz (Nat.ne_of_gt hk)
  · rw [hp, getCB_adopt]; split
    next e => rw [getCB_of_ge (Nat.le_of_eq e.symm)]; rfl
    next => rfl
end

/-! ## the program points -/

theorem usable_iff {s : St} {i : Nat} : usable s i = true ↔ i < s.cbs.length ∧ 0 < (getCB s i).live := by
  simp [usable]

theorem Inv.lend {s : St} {t i : Nat} {l : Loc} (h : Inv s) (ht : s.thr t = .idle) (hu : usable s i = true)
    (hl : pointOf l = some i) : Inv (setThr (lend s i) t l) := by
  have hu := usable_iff.1 hu
  -- the call borrows or consumes a live handle (`live − 1`, `lent + 1`); `rc` stays, positive as `live` is (`usable`)
  exact h.counters ht (cl := by cases l <;> cases hl <;> trivial) fun _ _ =>
    { pos := by omega, lent := by rw [hl]; simp [pointOf], sum := by dsimp only; omega
      tail := iff_of_false (by dsimp only; omega) (by rintro rfl; cases hl) }

/-- `OgreArc::new_with_clones`, pool not empty: `newUnique`, then `adopt` -/
theorem Inv.newArc {s : St} (h : Inv s) {t v k x : Nat} {rest : List Nat} (ht : s.thr t = .idle) (hk : k > 0)
    (hf : s.free = x :: rest) :
    Inv (setThr (pushCB (allocSt s v x rest) (newCB x k v s.nextGen)) t (.done (.arc s.cbs.length))) := by
  have := (h.newUnique (v := v) ht hf).adopt (x := x) (k := k) (v := v) (g := s.nextGen) (r := .arc s.cbs.length)
    ⟨List.mem_cons_self, by simp, by simp⟩ hk (if_pos rfl)
  -- the unique handle just made is the one erased again, and the thread is moved twice
  rw [uniques_setThr, uniques_withUniques, List.erase_cons_head] at this
  exact setThr_setThr (pushCB (allocSt s v x rest) _) t (.done (.unique x)) _ ▸ this

theorem inv_step (s : St) (t : Nat) (h : Inv s) : Inv (step s t) := by
  have hl := h.loc t
  cases ht : s.thr t <;> rw [ht] at hl <;> simp only [step, ht, LocOK] at hl ⊢
  case idle | done => exact h
  case clone i | inc i k | count i =>
    -- the call returns its handle (`lent − 1`, `live + 1`); `oa.clone` makes one more (`rc + 1`, `live + 1`), `oa.inc`
    -- announces `k` (`rc + k`, `owed + k`).  `t` is one of the `lent` calls in progress: `rc ≥ lent ≥ 1`
    exact h.counters ht fun _ le => by
      simp only [pointOf, ↓reduceIte] at le
      exact { pos := by omega, lent := by simp [pointOf]; omega, sum := by dsimp only; omega
              tail := iff_of_false (by dsimp only; omega) nofun }
  case dDec i =>
    -- `oa.drop.dec` consumes its handle (`rc − 1`, `lent − 1`; `rc ≥ lent ≥ 1` again).  Who saw 1 leaves 0 behind and
    -- goes on to `dDealloc i`; anybody else returns
    split <;> exact h.counters ht fun _ le => by
      simp only [pointOf, ↓reduceIte] at le
      exact { pos := by omega, lent := by simp [pointOf]; omega, sum := by dsimp only; omega, tail := by simp; omega }
  case dDealloc i => exact h.move ht hl
  case dDestroy i =>
    -- block `i` stops owning (`Owned` − 1) and its slot, now dead, is `t`'s in transit (`Transit` + 1); the slot was
    -- `i`'s alone (`ownInj`), so nobody else is concerned
    obtain ⟨tl, oi⟩ := hl
    have ok := h.owner oi
    have owns_iff j : Owns (destroy s (getCB s i).id) j ↔ Owns s j ∧ j ≠ i :=
      owns_destroy.trans (and_congr_right fun hj => not_congr ⟨h.ownInj j i hj oi, fun e => e ▸ rfl⟩)
    exact h.after ht (.destroy (fun j h0 ho e => h0 (congrArg some (h.ownInj j i ho oi e).symm))
        fun y _ hy e => hy.notOwned i oi e.symm)
      (h.data.destroy oi.alive ok.uniq fun j hr e => by
        obtain rfl := h.ownInj j i (h.rcOwns j hr) oi e; have := tl.2.2; omega)
      { loc := ⟨tl, ⟨ok.lt, ok.free, ok.uniq, fun j ho => (owns_destroy.1 ho).2⟩, by simp⟩
        tail := fun _ e => .inl e, slot := fun x e => .inr fun hx => hx.notOwned i oi (Option.some.inj e)
        ownRc := fun j ho hz =>
          have ⟨ho, ne⟩ := (owns_iff j).1 ho
          .inr ⟨ho, hz, fun e => ne (Option.some.inj e).symm⟩
        count := fun a ha =>
          have er := Card.erase ha oi owns_iff
          ⟨a - 1, er.1, by have := er.2; simp [transLoc]; omega⟩ }
  case uDestroy x =>
    -- the slot is unbooked before and after: no `Owns` changes; it dies and gets its log entry
    obtain ⟨ub, live⟩ := hl
    have owns_iff j : Owns (destroy s x) j ↔ Owns s j := owns_destroy.trans (and_iff_left_of_imp (ub.notOwned j))
    exact h.after ht (.destroy (fun j _ => ub.notOwned j) fun y h0 _ e => h0 (congrArg some e.symm))
      (h.data.destroy live ub.uniq fun j hr => ub.notOwned j (h.rcOwns j hr))
      { loc := ⟨⟨ub.lt, ub.free, ub.uniq, fun j ho => ub.notOwned j ((owns_iff j).1 ho)⟩, by simp,
          List.mem_append_right _ (List.mem_singleton.2 rfl)⟩
        slot := fun _ e => .inl e, ownRc := fun j ho hz => .inr ⟨(owns_iff j).1 ho, hz, nofun⟩
        count := fun a ha => ⟨a, Card.congr ha owns_iff, rfl⟩ }
  case dRelease i => exact h.release ht hl.2.2 hl.1
  case uRelease x => exact h.release ht hl.2.1
  case dFree i =>
    -- block `i` owns no longer (`ownRc` would give `t` itself, which is past the destructor), so nothing reads its
    -- `freed`: no `Owns`, no census, nobody else's `LocOK`
    have hno : ¬ Owns s i := fun ho => by
      obtain ⟨u, hu⟩ := h.ownRc i ho hl.2.2
      obtain rfl := h.tailUniq u t i (ownTail_tail hu) (by rw [ht]; rfl)
      rw [ht] at hu; cases hu
    have kf : Keeps fun c => { c with freed := true } := fun _ => ⟨rfl, rfl, rfl⟩
    have owns_iff := owns_updCB (s := s) (i := i) kf
    exact h.after ht (.updCB kf fun j h0 _ e => h0 (congrArg some e.symm))
      (h.data.updCB kf rfl (h.rcSum i) (fun ho => absurd ho hno) fun hr => absurd hl.2.2 (Nat.ne_of_gt hr))
      { ownRc := fun j ho hz =>
          have ho := (owns_iff j).1 ho
          .inr ⟨ho, by rwa [getCB_updCB_ne _ fun (e : j = i) => hno (e ▸ ho)] at hz, nofun⟩
        lent := fun j => by
          rcases getCB_updCB_or s i (fun c => { c with freed := true }) j with e | ⟨rfl, e⟩ <;> rw [e] <;> rfl
        count := fun a ha => ⟨a, Card.congr ha owns_iff, rfl⟩ }

theorem inv_apply (s : St) (a : Act) (h : Inv s) : Inv (apply s a) := by
  cases a <;> simp only [apply]
  case step t => exact inv_step s t h
  case ack t =>
    -- the one `match` of `apply`: from `done r` to `idle`, and neither location holds anything
    split
    next r hr => exact h.move hr
    next => exact h
  -- every other action is `if guard then … else s`
  all_goals split <;> try exact h
  case clone t i hc | incRefs t i k hc | dropArc t i hc | count t i hc => exact h.lend hc.1 hc.2 rfl
  case deref t i hc | derefUnique t x hc => exact h.move hc.1
  case rawCopy t i hc =>
    -- an announced copy becomes a live handle (`owed − 1`, `live + 1`); `rc` stays, positive as `owed` is
    exact h.counters hc.1 fun _ _ =>
      { pos := by omega, lent := rfl, sum := by dsimp only; omega, tail := iff_of_false (by dsimp only; omega) nofun }
  case newUnique t v hc =>
    cases hf : s.free with
    | nil => rw [allocWrite_nil v hf]; exact h.move hc
    | cons x rest => rw [allocWrite_cons v hf]; exact h.newUnique hc hf
  case newArc t v k hc =>
    cases hf : s.free with
    | nil => rw [allocWrite_nil v hf]; exact h.move hc.1
    | cons x rest => rw [allocWrite_cons v hf]; exact h.newArc hc.1 hc.2 hf
  case dropUnique t x hc =>
    have ⟨d, hx⟩ := h.data.erase hc.2
    exact h.after hc.1 .erase d
      { loc := ⟨hx, (h.unique hc.2).alive⟩, slot := fun y e => .inr fun hy => hy.uniq (Option.some.inj e ▸ hc.2)
        ownRc := fun j ho hz => .inr ⟨ho, hz, nofun⟩
        count := fun a ha => ⟨a, ha, by
          have := List.length_pos_of_mem hc.2; simp [transLoc, List.length_erase_of_mem hc.2]; omega⟩ }
  case intoArc t x hc => exact h.adopt ⟨hc.2, rfl, rfl⟩ Nat.one_pos hc.1

theorem inv_init (n : Nat) : Inv (init n) :=
  have no i : ¬ Owns (init n) i := fun h => Nat.not_lt_zero _ h.1
  Inv.of (by constructor <;> simp [init, Owns, getCB, List.nodup_range])
    (fun _ => trivial) nofun nofun (fun i h => absurd h (no i))
    (fun i => ⟨[], .nil, fun t => by simp [init, pointOf], by rw [getCB_of_ge (Nat.zero_le _)]; rfl⟩)
    ⟨0, 0, ⟨[], .nil, fun i => by simp [no], rfl⟩, ⟨[], .nil, fun t => by simp [init, transLoc], rfl⟩, by simp [init]⟩

theorem inv_run (s : St) (as : List Act) (h : Inv s) : Inv (run s as) :=
  List.foldlRecOn as apply h fun s h a _ => inv_apply s a h

theorem reachable_inv {n : Nat} {s : St} (h : Reachable n s) : Inv s := by
  obtain ⟨as, rfl⟩ := h
  exact inv_run _ as (inv_init n)

#print axioms reachable_inv

end Mutiny.Handles
