import Mutiny.Proofs.CancelAllWalk
import Mutiny.Proofs.MultiStep

/-!
# `cancel_all_streams()` under `streams_lock`: the lock discipline and the invariant of the walk

* `LockEff` — what one action of the bookkeeping model (M6) does to the flag, to who is inside the critical section of
  `sync_vacant_and_used_streams`, and to `used_streams`; `Inv` (mutual exclusion, walker included) follows case by case;
* `Keeps` — once the walker holds the lock no action of anybody disturbs the walk: told ++ still-to-tell, `seen` and
  `MAX` stay, and `mu` (the walker's own steps still needed) goes down by the walker's own steps only;
* `Walk` — at every instant: nobody told before the lock is taken; afterwards told ++ still-to-tell = the walk over the
  list seen when the lock was taken.
-/

namespace Mutiny.CancelAllLock

/-- a thread of the bookkeeping model that is inside the critical section of `sync_vacant_and_used_streams` -/
def holds : Multi.Loc → Prop
  | .yPeek _ => True
  | .yWrite _ _ _ => True
  | _ => False

/-- the walker holds `streams_lock` -/
def active : WLoc → Prop
  | .read _ => True
  | .cancel _ _ => True
  | .unlock => True
  | _ => False

/-- `h1`: while a thread is inside `sync` the flag is set; `h2`: at most one thread is; `h3`: while the walker holds the
    flag no thread is.  Not a `SpinFlag.Excl`: the walker is no thread of `m.thr`, so the flag can be set with nobody
    of `m.thr` inside (`h1` goes one way only). -/
structure Inv (s : St) : Prop where
  h1 : ∀ t, holds (s.m.thr t) → s.m.slock = true
  h2 : ∀ t u, holds (s.m.thr t) → holds (s.m.thr u) → t = u
  h3 : active s.w → s.m.slock = true ∧ ∀ t, ¬ holds (s.m.thr t)

@[simp] theorem run_cons (s : St) (a : Act) (as : List Act) : run s (a :: as) = run (apply s a) as := rfl

/-! ## the lock discipline of the bookkeeping model -/

inductive LockEff (m m' : Multi.St) : Prop where
  | keep (hl : m'.slock = m.slock) (hh : ∀ u, holds (m'.thr u) → holds (m.thr u))
      (hu : (∀ u, ¬ holds (m.thr u)) → m'.used = m.used)
  | acquire (t : Nat) (hf : m.slock = false) (hl : m'.slock = true)
      (hh : ∀ u, holds (m'.thr u) → u = t ∨ holds (m.thr u))
  | release (t : Nat) (ht : holds (m.thr t)) (hh : ∀ u, holds (m'.thr u) → u ≠ t ∧ holds (m.thr u))

namespace LockEff
variable {m m1 : Multi.St} {t : Nat} {l : Multi.Loc}

theorem refl (m : Multi.St) : LockEff m m := .keep rfl (fun _ h => h) (fun _ => rfl)

/-- `t` moves to a location outside the critical section; `m1` is `m` with other fields than `slock`, `thr`, `used`
    updated, so `h` is `rfl` -/
theorem move (hl : ¬ holds l) (h : (m1.slock, m1.thr, m1.used) = (m.slock, m.thr, m.used)) :
    LockEff m (Multi.setThr m1 t l) :=
  have ⟨hs, ht, hu⟩ : m1.slock = m.slock ∧ m1.thr = m.thr ∧ m1.used = m.used := by simpa using h
  .keep hs (fun u h => by
    rw [Multi.thr_setThr] at h
    split at h
    · exact absurd h hl
    · exact ht ▸ h) (fun _ => hu)

/-- `t` is inside and stays inside (it may write an entry of the list) -/
theorem inside (hin : holds (m.thr t)) (hs : m1.slock = m.slock) (ht : m1.thr = m.thr) :
    LockEff m (Multi.setThr m1 t l) :=
  .keep hs (fun u h => by
    rw [Multi.thr_setThr] at h
    split at h
    · next e => exact e ▸ hin
    · exact ht ▸ h) (fun hno => absurd hin (hno t))

theorem leave (hin : holds (m.thr t)) (hl : ¬ holds l) (ht : m1.thr = m.thr) : LockEff m (Multi.setThr m1 t l) :=
  .release t hin (fun u h => by
    rw [Multi.thr_setThr] at h
    split at h
    · exact absurd h hl
    · next e => exact ⟨e, ht ▸ h⟩)

theorem take (r : Multi.Res) (hf : m.slock = false) :
    LockEff m (Multi.setThr { m with slock := true } t (.yPeek r)) :=
  .acquire t hf rfl (fun u h => by
    rw [Multi.thr_setThr] at h
    split at h
    · next e => exact .inl e
    · exact .inr h)

end LockEff

open Multi in
theorem lockEff_step (m : Multi.St) (t : Nat) : LockEff m (Multi.step m t) := by
  cases hl : m.thr t with
  | idle => rw [step_idle hl]; exact .refl m
  | done r => rw [step_done hl]; exact .refl m
  | cCount => rw [step_of_at hl step_at_cCount]; exact .move id rfl
  | cVacant =>
    cases hv : m.vacant with
    | nil => rw [step_of_at hl (step_at_cVacant_nil hv)]; exact .move id rfl
    | cons j rest => rw [step_of_at hl (step_at_cVacant hv)]; exact .move id rfl
  | cFlag j => rw [step_of_at hl step_at_cFlag]; exact .move id rfl
  | dDrain j => rw [step_of_at hl step_at_dDrain]; exact .move id rfl
  | dCount j => rw [step_of_at hl step_at_dCount]; exact .move id rfl
  | dVacant j => rw [step_of_at hl step_at_dVacant]; exact .move id rfl
  | yLock r | ySpin r =>
    rw [step_of_at hl (step_at_lock (r := r) (by simp))]
    cases hs : m.slock
    · exact .take r hs
    · exact .move id rfl
  | yPeek r =>
    have hin : holds (m.thr t) := hl ▸ trivial
    cases hp : syncPlan m.MAX m.vacant with
    | nil => rw [step_of_at hl (step_at_yPeek_nil hp)]; exact .leave hin id rfl
    | cons x xs => rw [step_of_at hl (step_at_yPeek hp)]; exact .inside hin rfl rfl
  | yWrite r i rest =>
    have hin : holds (m.thr t) := hl ▸ trivial
    match rest, hl with
    | [], hl => rw [step_of_at hl step_at_yWrite_nil]; exact .leave hin id rfl
    | [x], hl => rw [step_of_at hl step_at_yWrite_last]; exact .leave hin id rfl
    | x :: y :: more, hl => rw [step_of_at hl step_at_yWrite]; exact .inside hin rfl rfl
  | fArc ev i j =>
    rw [step_of_at hl step_at_fArc]
    split
    · exact .move id rfl
    · split <;> exact .move id rfl
  | fCount ev => rw [step_of_at hl step_at_fCount]; split <;> exact .move id rfl
  | fOgre ev i cnt =>
    rw [step_of_at hl (step_at_fOgre rfl)]
    split <;> split <;> exact .move id rfl
  | pPoll j =>
    cases hq : m.queues j with
    | nil => rw [step_of_at hl (step_at_pPoll_nil hq)]; exact .move id rfl
    | cons ev rest => rw [step_of_at hl (step_at_pPoll hq)]; exact .move id rfl

theorem lockEff_apply (m : Multi.St) (a : Multi.Act) : LockEff m (Multi.apply m a) := by
  cases a with
  | step t => exact lockEff_step m t
  | release ev | cancel j => exact .keep rfl (fun _ h => h) (fun _ => rfl)
  | create t | poll t j | ack t =>
    simp only [Multi.apply]
    split
    · exact .move id rfl
    · exact .refl m
  | drop t j =>
    simp only [Multi.apply]
    split
    · exact .move (by split <;> exact id) rfl
    · exact .refl m
  | send t ev =>
    simp only [Multi.apply]
    split
    · split <;> split <;> exact .move id rfl
    · exact .refl m

/-! ## mutual exclusion -/

theorem Inv.of_nobody {s : St} (hno : ∀ u, ¬ holds (s.m.thr u)) (h3 : active s.w → s.m.slock = true) : Inv s :=
  ⟨fun u hu => absurd hu (hno u), fun a _ ha _ => absurd ha (hno a), fun ha => ⟨h3 ha, hno⟩⟩

theorem Inv.multi {s : St} (h : Inv s) {m' : Multi.St} (e : LockEff s.m m') : Inv { s with m := m' } := by
  cases e with
  | keep hl hh _ =>
    exact ⟨fun t ht => hl.trans (h.h1 t (hh t ht)), fun t u ht hu => h.h2 t u (hh t ht) (hh u hu),
      fun ha => ⟨hl.trans (h.h3 ha).1, fun t ht => (h.h3 ha).2 t (hh t ht)⟩⟩
  | acquire t hf hl hh =>
    have free : ∀ {p : Prop}, s.m.slock = true → p := fun e => by rw [hf] at e; cases e
    have hh' : ∀ u, holds (m'.thr u) → u = t := fun u hu => (hh u hu).elim id (fun hu' => free (h.h1 u hu'))
    exact ⟨fun _ _ => hl, fun a b ha hb => (hh' a ha).trans (hh' b hb).symm, fun ha => free (h.h3 ha).1⟩
  | release t ht hh =>
    have hno : ∀ u, ¬ holds (m'.thr u) := fun u hu => (hh u hu).1 (h.h2 u t (hh u hu).2 ht)
    exact .of_nobody hno fun ha => absurd ht ((h.h3 ha).2 t)

/-! ## the walker's own steps -/

section wstep
variable {s : St}

theorem wstep_wait (hw : s.w = .lock ∨ s.w = .spin) :
    apply s .wstep = if s.m.slock then { s with w := .spin }
      else { s with m := { s.m with slock := true }, w := .read 0, seen := s.m.used } := by
  rcases hw with hw | hw <;> simp only [apply, hw]

theorem wstep_read {i : Nat} (hw : s.w = .read i) :
    apply s .wstep = if i ≥ s.m.MAX ∨ s.m.used.getD i s.m.MAX = s.m.MAX then { s with w := .unlock }
      else { s with w := .cancel i (s.m.used.getD i s.m.MAX) } := by
  simp only [apply, hw]

theorem wstep_cancel {i id : Nat} (hw : s.w = .cancel i id) :
    apply s .wstep =
      { s with m := Multi.apply s.m (.cancel id), cancelled := s.cancelled ++ [id], w := .read (i + 1) } := by
  simp only [apply, hw]

theorem wstep_unlock (hw : s.w = .unlock) :
    apply s .wstep = { s with m := { s.m with slock := false }, w := .done } := by
  simp only [apply, hw]

end wstep

theorem inv_apply (s : St) (a : Act) (h : Inv s) : Inv (apply s a) := by
  have same : ∀ w', (active w' → active s.w) → Inv { s with w := w' } := fun w' hw =>
    ⟨h.h1, h.h2, fun ha => h.h3 (hw ha)⟩
  cases a with
  | multi a => exact h.multi (lockEff_apply s.m a)
  | cancelAll =>
    simp only [apply]
    split
    · exact same _ (fun ha => ha.elim)
    · exact h
  | wstep =>
    cases hw : s.w with
    | idle => simp only [apply, hw]; exact h
    | done => simp only [apply, hw]; exact h
    | lock | spin =>
      rw [wstep_wait (by simp [hw])]
      cases hs : s.m.slock
      · have hno : ∀ u, ¬ holds (s.m.thr u) := fun u hu => by have := h.h1 u hu; rw [hs] at this; cases this
        exact .of_nobody hno fun _ => rfl
      · exact same _ (fun ha => ha.elim)
    | read i => rw [wstep_read hw]; split <;> exact same _ (fun _ => hw ▸ trivial)
    | cancel i id =>
      rw [wstep_cancel hw]
      exact ⟨h.h1, h.h2, fun _ => h.h3 (hw ▸ trivial)⟩
    | unlock =>
      rw [wstep_unlock hw]
      exact .of_nobody (h.h3 (hw ▸ trivial)).2 fun ha => ha.elim

theorem inv_init (mx : Nat) : Inv (init mx) := .of_nobody (fun _ => id) fun ha => ha.elim

theorem apply_MAX (s : St) (a : Act) : (apply s a).m.MAX = s.m.MAX := by
  cases a with
  | multi b => exact Multi.apply_MAX s.m b
  | cancelAll => simp only [apply]; split <;> rfl
  | wstep => simp only [apply]; split <;> (try split) <;> rfl

theorem run_MAX (s : St) (as : List Act) : (run s as).m.MAX = s.m.MAX :=
  List.foldlRecOn as apply (motive := fun x => x.m.MAX = s.m.MAX) rfl fun x hx a _ => (apply_MAX x a).trans hx

/-! ## the walk -/

/-- what is still to be told to end -/
def todo (s : St) : List Nat :=
  match s.w with
  | .read i => walkFrom s.m.used s.m.MAX i
  | .cancel i id => id :: walkFrom s.m.used s.m.MAX (i + 1)
  | _ => []

/-- how many own steps the walker still needs -/
def mu (s : St) : Nat :=
  match s.w with
  | .read i => 2 * (walkFrom s.m.used s.m.MAX i).length + 2
  | .cancel i _ => 2 * (walkFrom s.m.used s.m.MAX (i + 1)).length + 3
  | .unlock => 1
  | _ => 0

/-- `s'` is `s` some actions later, `k` of them the walker's own, the walker holding the lock in `s` (or being done) -/
structure Keeps (s s' : St) (k : Nat) : Prop where
  told : s'.cancelled ++ todo s' = s.cancelled ++ todo s
  seen : s'.seen = s.seen
  max  : s'.m.MAX = s.m.MAX
  mu   : mu s' = mu s - k
  took : active s'.w ∨ s'.w = .done

theorem Keeps.refl {s : St} (ha : active s.w ∨ s.w = .done) : Keeps s s 0 :=
  { told := rfl, seen := rfl, max := rfl, mu := rfl, took := ha }

theorem wstep_active (s : St) (ha : active s.w) : Keeps s (apply s .wstep) 1 := by
  obtain ⟨m, w, c, sn⟩ := s
  cases w with
  | idle | done | lock | spin => exact ha.elim
  | read i =>
    rw [wstep_read rfl]
    split
    · next hc =>
      exact { told := by simp only [todo, walkFrom_stop hc], seen := rfl, max := rfl,
              mu := by simp only [mu, walkFrom_stop hc]; rfl, took := .inl trivial }
    · next hc =>
      exact { told := by simp only [todo, walkFrom_go hc], seen := rfl, max := rfl,
              mu := by simp only [mu, walkFrom_go hc, List.length_cons]; omega, took := .inl trivial }
  | cancel i id =>
    exact { told := List.append_assoc _ _ _, seen := rfl, max := Multi.apply_MAX .., mu := rfl, took := .inl trivial }
  | unlock => exact { told := rfl, seen := rfl, max := rfl, mu := rfl, took := .inr rfl }

def wsteps : List Act → Nat
  | [] => 0
  | .wstep :: as => wsteps as + 1
  | _ :: as => wsteps as

theorem wsteps_cons (a : Act) (as : List Act) : wsteps (a :: as) = wsteps [a] + wsteps as := by
  cases a <;> simp only [wsteps] <;> omega

theorem keeps_apply (s : St) (a : Act) (h : Inv s) (ha : active s.w ∨ s.w = .done) :
    Keeps s (apply s a) (wsteps [a]) := by
  rcases ha with ha | hd
  · cases a with
    | multi b =>
      -- nobody else can be inside `sync`, so the list the walker walks does not change
      have hu : (Multi.apply s.m b).used = s.m.used := by
        cases lockEff_apply s.m b with
        | keep _ _ hu => exact hu (h.h3 ha).2
        | acquire _ hf => have := (h.h3 ha).1; rw [hf] at this; cases this
        | release t ht => exact absurd ht ((h.h3 ha).2 t)
      exact { told := by simp only [todo, apply, hu, Multi.apply_MAX], seen := rfl, max := apply_MAX s _,
              mu := by simp only [mu, apply, hu, Multi.apply_MAX, wsteps, Nat.sub_zero], took := .inl ha }
    | cancelAll =>
      rw [show apply s .cancelAll = s from if_neg fun e => by rw [e] at ha; exact ha]
      exact .refl (.inl ha)
    | wstep => exact wstep_active s ha
  · have ⟨hd', hc, hs⟩ : (apply s a).w = .done ∧ (apply s a).cancelled = s.cancelled ∧ (apply s a).seen = s.seen := by
      cases a <;> simp only [apply, hd, reduceCtorEq, if_false, and_self]
    exact { told := by simp only [todo, hd, hd', hc], seen := hs, max := apply_MAX s a,
            mu := by simp only [mu, hd, hd', Nat.zero_sub], took := .inr hd' }

theorem Keeps.trans {s s' s'' : St} {k k' : Nat} (a : Keeps s s' k) (b : Keeps s' s'' k') : Keeps s s'' (k + k') :=
  { told := b.told.trans a.told, seen := b.seen.trans a.seen, max := b.max.trans a.max,
    mu := by rw [b.mu, a.mu, Nat.sub_sub], took := b.took }

theorem keeps_run (as : List Act) (s : St) (h : Inv s) (ha : active s.w ∨ s.w = .done) :
    Keeps s (run s as) (wsteps as) := by
  induction as generalizing s with
  | nil => exact .refl ha
  | cons a as ih =>
    have k := keeps_apply s a h ha
    exact wsteps_cons a as ▸ k.trans (ih _ (inv_apply s a h) k.took)

/-- the walker has got past taking the lock: it holds it (`active`) or is done -/
def tookLock : WLoc → Bool
  | .read _ | .cancel _ _ | .unlock | .done => true
  | _ => false

theorem tookLock_iff (w : WLoc) : tookLock w = true ↔ active w ∨ w = .done := by cases w <;> simp [tookLock, active]

/-- `c₀`: the streams that had been told to end before this `cancel_all_streams()` began -/
def Walk (c₀ : List Nat) (s : St) : Prop :=
  if tookLock s.w then s.cancelled ++ todo s = c₀ ++ walkFrom s.seen s.m.MAX 0 else s.cancelled = c₀

theorem walk_apply {c₀ : List Nat} (s : St) (a : Act) (h : Inv s) (hk : Walk c₀ s) : Walk c₀ (apply s a) := by
  unfold Walk at hk ⊢
  by_cases hh : tookLock s.w
  · -- the lock is held: nothing disturbs the walk
    have k := keeps_apply s a h ((tookLock_iff _).1 hh)
    rw [if_pos hh] at hk
    rw [if_pos ((tookLock_iff _).2 k.took), k.told, k.seen, k.max, hk]
  · -- before: nobody has been told, until the walker's step that takes the lock
    rw [if_neg hh] at hk
    cases a with
    | multi b => rw [show (apply s (.multi b)).w = s.w from rfl, if_neg hh]; exact hk
    | cancelAll =>
      simp only [apply]
      split <;> exact hk
    | wstep =>
      cases hw : s.w with
      | read | cancel | unlock | done => rw [hw] at hh; exact absurd rfl hh
      | idle => simp only [apply, hw]; exact hk
      | lock | spin =>
        rw [wstep_wait (by simp [hw])]
        split
        · exact hk
        · exact congrArg (· ++ walkFrom s.m.used s.m.MAX 0) hk

theorem walk_run {c₀ : List Nat} {s : St} (as : List Act) (h : Inv s) (hk : Walk c₀ s) : Walk c₀ (run s as) :=
  (List.foldlRecOn as apply (motive := fun x => Inv x ∧ Walk c₀ x) ⟨h, hk⟩ fun x hx a _ =>
    ⟨inv_apply x a hx.1, walk_apply x a hx.1 hx.2⟩).2

theorem mu_pos {s : St} (ha : active s.w) : 0 < mu s := by
  obtain ⟨m, w, c, sn⟩ := s
  cases w with
  | read i => exact Nat.succ_pos _
  | cancel i id => exact Nat.succ_pos _
  | unlock => exact Nat.one_pos
  | idle | lock | spin | done => exact ha.elim

end Mutiny.CancelAllLock
