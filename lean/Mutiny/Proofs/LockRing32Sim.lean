import Mutiny.Proofs.LockRingInv
import Mutiny.Proofs.U32
import Mutiny.Model.LockRing32

/-!
# `LockRing32` (u32 arithmetic of `FullSyncMove`) is the image modulo 2^32 of `LockRing` (M2) — property C15

No window hypothesis about threads is needed here: under the lock there are no over-claims, `head ≤ tail ≤ head + N` is
all the arithmetic uses.  Hypotheses: `N ∣ 2^32` (power of two), `N < 2^31` (the consumer's emptiness test is signed).
-/
namespace Mutiny.LockRing32
open Mutiny.LockRing Mutiny.U32

@[simp] theorem img_N (s : St) : (img s).N = s.N := rfl
@[simp] theorem img_head (s : St) : (img s).head = wrap s.head := rfl
@[simp] theorem img_tail (s : St) : (img s).tail = wrap s.tail := rfl
@[simp] theorem img_locked (s : St) : (img s).locked = s.locked := rfl
@[simp] theorem img_buf (s : St) : (img s).buf = s.buf := rfl
@[simp] theorem img_thr (s : St) (u : Nat) : (img s).thr u = imgLoc (s.thr u) := rfl
@[simp] theorem img_acc (s : St) : (img s).accepted = s.accepted := rfl
@[simp] theorem img_del (s : St) : (img s).delivered = s.delivered.map fun x => (x.1, wrap x.2.1, x.2.2) := rfl

theorem img_setThr (s : St) (t : Nat) (l : Loc) : img (setThr s t l) = setThr (img s) t (imgLoc l) := by
  simp only [img, setThr, apply_ite imgLoc]

theorem img_setBuf (s : St) (i v : Nat) : img (setBuf s i v) = setBuf (img s) i v := rfl

theorem img_setLocked (s : St) (b : Bool) : img { s with locked := b } = { img s with locked := b } := rfl

theorem img_publish (s : St) (a : List Nat) :
    img { s with tail := s.tail + 1, locked := false, accepted := a }
      = { img s with tail := wadd (img s).tail 1, locked := false, accepted := a } := by
  simp [img, wadd_wrap_one]

theorem img_consume (s : St) (t v : Nat) :
    img { s with head := s.head + 1, locked := false, delivered := s.delivered ++ [(t, s.head, v)] }
      = { img s with head := wadd (img s).head 1, locked := false,
                     delivered := (img s).delivered ++ [(t, (img s).head, v)] } := by
  simp [img, wadd_wrap_one]

theorem sim_step (s : St) (t : Nat) (h : Inv s) (hN : M32 % s.N = 0) (hNs : s.N ≤ 2147483647) :
    step32 (img s) t = some (img (step s t)) := by
  have hcap := h.cap
  have e : wsub (wrap s.tail) (wrap s.head) = s.tail - s.head := wsub_wrap _ _ h.ht (by omega)
  -- at a point not named below the two machines perform the same update
  cases hl : s.thr t <;>
    simp only [step32, step, img_thr, hl, imgLoc, img_setThr, img_setBuf, img_setLocked, img_publish, img_consume,
      img_N, img_head, img_tail, img_buf, img_acc, fsAdmit32, len32, index32, mod_wrap _ _ hN, e, apply_ite img,
      apply_ite some]
  -- `rw`, not `simp only`: the flag test of `step32` mentions `(img s).locked` in its `Decidable` instance too
  case pLock | pSpin | cLock | cSpin => rw [img_locked]
  case pCheck => simp only [cadd, if_pos (show s.tail - s.head + 1 < M32 by omega), decide_eq_true_eq]
  case cLen => simp only [posI32_iff, show s.tail - s.head < 2147483648 by omega, and_true]

theorem imgLoc_idle_iff (l : Loc) : imgLoc l = .idle ↔ l = .idle := by cases l <;> simp [imgLoc]

theorem sim_apply (s : St) (a : Act) (h : Inv s) (hN : M32 % s.N = 0) (hNs : s.N ≤ 2147483647) :
    apply32 (img s) a = some (img (LockRing.apply s a)) := by
  cases a with
  | step t => exact sim_step s t h hN hNs
  | send t _ | recv t | len t =>
    simp only [apply32, LockRing.apply, img_thr, imgLoc_idle_iff, apply_ite img, img_setThr]; rfl
  | ack t =>
    simp only [apply32, LockRing.apply, img_thr]
    cases s.thr t <;> simp only [imgLoc, img_setThr]

/-- C15 for the full-sync ring, machine level: every run of the `u32` machine is, action for action, the image modulo
    2^32 of the run of model M2 over free-running naturals — for runs of any length (counters of any magnitude), any
    number of threads and any schedule — and never panics -/
theorem sim_run (s : St) (as : List Act) (h : Inv s) (hN : M32 % s.N = 0) (hNs : s.N ≤ 2147483647) :
    run32 (img s) as = some (img (LockRing.run s as)) := by
  induction as generalizing s with
  | nil => rfl
  | cons a as ih =>
    simp only [run32, sim_apply s a h hN hNs]
    exact ih (LockRing.apply s a) (inv_apply s a h) (by rw [apply_N]; exact hN) (by rw [apply_N]; exact hNs)

end Mutiny.LockRing32
