import Mutiny.Proofs.LockRingInv

/-!
# Lemmas behind the `C01 / C02 / C16 / C20` property theorems of the `LockRing` model

A step is read in two halves: where it takes its thread (`next`, a function of the program point and of what the step
reads) and what it writes (nothing, `ring_step`, except at the three points of `writes`).  On these rest the effect of a
step on the abstract queue, the paths into the two early exits (C02), the solo calls as one sequential operation (C16),
and the sets of program points a thread cannot leave while somebody else holds the flag (`Stuck`, C20).
Against `RingProps`: `sendActs` / `recvActs` are its schedules `sendSolo` / `recvSolo` (`soloSend` is a function here),
`fill` is its `fillSolo`, `run_send_ok` its `run_sendSolo_sent`.
-/

namespace Mutiny.LockRing
open SpinFlag

/-! ## what a step does -/

theorem step_idle {s : St} {t : Nat} (ht : s.thr t = .idle) : step s t = s := by simp only [step, ht]
theorem step_done {s : St} {t : Nat} {r : Res} (ht : s.thr t = .done r) : step s t = s := by simp only [step, ht]

def next (s : St) : Loc → Loc
  | .pLock v | .pSpin v => if s.locked then .pSpin v else .pCheck v
  | .pCheck v => if s.tail - s.head < s.N then .pWrite v (s.tail - s.head + 1) else .pFullUnlocked
  | .pFullUnlocked => .done .full
  | .pWrite v len => .pPublish v len
  | .pPublish _ len => .pUnlocked len
  | .pUnlocked len => .done (.sent len)
  | .cLock | .cSpin => if s.locked then .cSpin else .cLenT
  | .cLenT => .cLen
  | .cLen => if s.tail - s.head > 0 then .cRead else .cEmptyUnlocked
  | .cEmptyUnlocked => .done .empty
  | .cRead => .cRelease (s.buf (s.head % s.N))
  | .cRelease v => .cUnlocked v
  | .cUnlocked v => .done (.got v)
  | .lLen => .lLenH s.tail
  | .lLenH tl => .done (.len (U32.wsub (U32.wrap tl) (U32.wrap s.head)))
  | l => l

theorem step_thr_self (s : St) (t : Nat) : (step s t).thr t = next s (s.thr t) := by
  cases ht : s.thr t <;> simp [step, ht, next, apply_ite fun x : St => x.thr t]

theorem step_thr_ne (s : St) (t u : Nat) (h : u ≠ t) : (step s t).thr u = s.thr u := by
  cases ht : s.thr t <;> simp [step, ht, h, apply_ite fun x : St => x.thr u]

def writes : Loc → Prop
  | .pWrite _ _ | .pPublish _ _ | .cRelease _ => True
  | _ => False

theorem step_pWrite {s : St} {t v len : Nat} (ht : s.thr t = .pWrite v len) :
    step s t = setThr (setBuf s (s.tail % s.N) v) t (.pPublish v len) := by simp only [step, ht]
theorem step_pPublish {s : St} {t v len : Nat} (ht : s.thr t = .pPublish v len) :
    step s t = setThr { s with tail := s.tail + 1, locked := false, accepted := s.accepted ++ [v] } t
      (.pUnlocked len) := by simp only [step, ht]
theorem step_cRelease {s : St} {t v : Nat} (ht : s.thr t = .cRelease v) :
    step s t = setThr { s with head := s.head + 1, locked := false,
                               delivered := s.delivered ++ [(t, s.head, v)] } t (.cUnlocked v) := by
  simp only [step, ht]

/-- The ring proper: everything but the flag and the program points. -/
def ring (s : St) := (s.N, s.head, s.tail, s.buf, s.accepted, s.delivered)

theorem ring_step (s : St) {t : Nat} {l : Loc} (ht : s.thr t = l) (h : ¬ writes l) : ring (step s t) = ring s := by
  cases l <;> simp only [writes, not_true_eq_false] at h
  all_goals simp only [step, ht] <;> (try split) <;> rfl

theorem holder_of_writes {l : Loc} (h : writes l) : holder l := by cases l <;> simp_all [writes, holder]

/-- The thread an action belongs to: the only one whose program point it can change. -/
def actor : Act → Nat
  | .send t _ | .recv t | .len t | .step t | .ack t => t

theorem apply_thr_ne (s : St) (a : Act) (u : Nat) (h : u ≠ actor a) : (apply s a).thr u = s.thr u := by
  cases a <;> simp only [actor] at h
  case step t => exact step_thr_ne s t u h
  all_goals (simp only [apply]; split <;> simp [h])

theorem ring_apply (s : St) (a : Act) (h : ∀ t, a = .step t → ¬ writes (s.thr t)) : ring (apply s a) = ring s := by
  cases a with
  | step t => exact ring_step s rfl (h t rfl)
  | send t _ | recv t | len t | ack t => simp only [apply]; split <;> rfl

/-- `ring s' = ring s` read field by field (the equation is what composes along a run and is closed by `rfl`). -/
structure SameRing (s s' : St) : Prop where
  N : s'.N = s.N
  head : s'.head = s.head
  tail : s'.tail = s.tail
  buf : s'.buf = s.buf
  accepted : s'.accepted = s.accepted
  delivered : s'.delivered = s.delivered

theorem SameRing.of_eq {s s' : St} (e : ring s' = ring s) : SameRing s s' := by
  simp only [ring, Prod.mk.injEq] at e
  constructor <;> simp only [e]

theorem abs_of_ring {s s' : St} (e : ring s' = ring s) : abs s' = abs s := by
  rw [abs, abs, (SameRing.of_eq e).head, (SameRing.of_eq e).accepted]

/-! ## `abs` -/

theorem abs_length {s : St} (h : Inv s) : (abs s).length = s.tail - s.head := h.data.length_drop

theorem abs_eq_nil_iff {s : St} (h : Inv s) : abs s = [] ↔ s.head = s.tail := h.data.drop_eq_nil

theorem step_abs_exact {s : St} (h : Inv s) (t : Nat) :
    match s.thr t with
    | .pPublish v len => abs (step s t) = abs s ++ [v] ∧ (abs s).length < s.N ∧ len = (abs s).length + 1
    | .cRelease v => abs s = v :: abs (step s t)
    | _ => abs (step s t) = abs s := by
  cases ht : s.thr t with
  | pPublish v len =>
    obtain ⟨h1, _, h3⟩ := h.pP t v len ht
    rw [abs_length h, step_pPublish ht]
    exact ⟨h.data.drop_snoc v, h1, h3⟩
  | cRelease v =>
    rw [step_cRelease ht]
    show s.accepted.drop s.head = v :: s.accepted.drop (s.head + 1)
    rw [List.drop_eq_getElem?_toList_append, (h.cRel t v ht).2]; rfl
  | pWrite v len => rw [step_pWrite ht]; rfl
  | _ => exact abs_of_ring (ring_step s ht id)

/-! ## the two early exits -/

theorem next_exit (s : St) (l : Loc) (h : next s l ≠ l) :
    (next s l = .done .empty → l = .cEmptyUnlocked) ∧ (next s l = .cEmptyUnlocked → l = .cLen) ∧
    (next s l = .done .full → l = .pFullUnlocked) ∧ (next s l = .pFullUnlocked → ∃ v, l = .pCheck v) := by
  generalize e : next s l = l' at h ⊢
  cases l <;> simp only [next] at e <;> (try split at e)
  all_goals subst e; simp at h ⊢

/-- The two early exits are entered only along `cLen → cEmptyUnlocked → done empty` and
`pCheck → pFullUnlocked → done full`, by steps of the thread itself. -/
theorem exit_paths (s : St) (a : Act) (t : Nat) (h : (apply s a).thr t ≠ s.thr t) :
    ((apply s a).thr t = .done .empty → a = .step t ∧ s.thr t = .cEmptyUnlocked) ∧
    ((apply s a).thr t = .cEmptyUnlocked → a = .step t ∧ s.thr t = .cLen) ∧
    ((apply s a).thr t = .done .full → a = .step t ∧ s.thr t = .pFullUnlocked) ∧
    ((apply s a).thr t = .pFullUnlocked → a = .step t ∧ ∃ v, s.thr t = .pCheck v) := by
  have hat : t = actor a := Decidable.byContradiction fun e => h (apply_thr_ne s a t e)
  cases a with
  | step u =>
    obtain rfl : t = u := hat
    simp only [apply, step_thr_self, true_and] at h ⊢
    exact next_exit s _ h
  | send u _ | recv u | len u | ack u =>
    obtain rfl : t = u := hat
    simp only [apply] at h ⊢
    split at h <;> simp_all

/-! ## C16: sequential (solo) behaviour -/

theorem St.ext_ring {a b : St} (hr : ring a = ring b) (hl : a.locked = b.locked) (ht : ∀ u, a.thr u = b.thr u) :
    a = b := by
  have := funext ht
  cases a; cases b; simp_all [ring]

theorem setThr_setThr (s : St) (t : Nat) (l l' : Loc) : setThr (setThr s t l) t l' = setThr s t l' :=
  St.ext_ring rfl rfl (fun u => by by_cases h : u = t <;> simp [h])

theorem setThr_self {s : St} {t : Nat} {l : Loc} (h : s.thr t = l) : setThr s t l = s :=
  St.ext_ring rfl rfl (fun u => by by_cases e : u = t <;> simp [e, h])

/-- The schedule of one complete solo `send` of thread `t` (5 own steps; 3 suffice when the ring is full); `recvActs`:
of a `recv` (6; 4 when it is empty). -/
def sendActs (t v : Nat) : List Act := [.send t v, .step t, .step t, .step t, .step t, .step t]
def recvActs (t : Nat) : List Act := [.recv t, .step t, .step t, .step t, .step t, .step t, .step t]

/-- The same two lists (`sendActs_ok`, `recvActs_ok`), named after the paths that need every step. -/
def soloSendOk (t v : Nat) : List Act := [.send t v, .step t, .step t, .step t, .step t, .step t]
def soloRecvOk (t : Nat) : List Act := [.recv t, .step t, .step t, .step t, .step t, .step t, .step t]
theorem sendActs_ok (t v : Nat) : sendActs t v = soloSendOk t v := rfl
theorem recvActs_ok (t : Nat) : recvActs t = soloRecvOk t := rfl

/-- One solo `send`: run the call to completion, record the result point, acknowledge; `soloRecv` likewise. -/
def soloSend (s : St) (t v : Nat) : St × Loc :=
  let s' := run s (sendActs t v)
  (apply s' (.ack t), s'.thr t)

def soloRecv (s : St) (t : Nat) : St × Loc :=
  let s' := run s (recvActs t)
  (apply s' (.ack t), s'.thr t)

/-- Solo sends of the values `vs`, one after the other; returns the final state and the result points.  `drain`: the
same with `k` solo receives. -/
def fill (t : Nat) : St → List Nat → St × List Loc
  | s, [] => (s, [])
  | s, v :: vs => ((fill t (soloSend s t v).1 vs).1, (soloSend s t v).2 :: (fill t (soloSend s t v).1 vs).2)

def drain (t : Nat) : St → Nat → St × List Loc
  | s, 0 => (s, [])
  | s, k + 1 => ((drain t (soloRecv s t).1 k).1, (soloRecv s t).2 :: (drain t (soloRecv s t).1 k).2)

/-- The sequential `send` on the ring: what a call that nobody interferes with leaves behind; `deq`: the same for
`recv`. -/
def enq (s : St) (v : Nat) : St :=
  { setBuf s (s.tail % s.N) v with tail := s.tail + 1, locked := false, accepted := s.accepted ++ [v] }

def deq (s : St) (t : Nat) : St :=
  { s with head := s.head + 1, locked := false, delivered := s.delivered ++ [(t, s.head, s.buf (s.head % s.N))] }

/-! A call of `t` that starts with the flag free and runs without interruption (the other threads may be anywhere
outside the region) is the sequential operation; the four paths: -/

theorem run_send_ok {s : St} {t : Nat} (v : Nat) (ht : s.thr t = .idle) (hl : s.locked = false)
    (hroom : s.tail - s.head < s.N) :
    run s (sendActs t v) = setThr (enq s v) t (.done (.sent (s.tail - s.head + 1))) := by
  simp [sendActs, run, apply, step, ht, hl, hroom]
  exact St.ext_ring rfl rfl (fun u => by by_cases h : u = t <;> simp [h, enq])

theorem run_send_full {s : St} {t : Nat} (v : Nat) (ht : s.thr t = .idle) (hl : s.locked = false)
    (hfull : ¬ s.tail - s.head < s.N) :
    run s [.send t v, .step t, .step t, .step t] = setThr s t (.done .full) := by
  simp [run, apply, step, ht, hl, hfull]
  exact St.ext_ring rfl hl.symm (fun u => by by_cases h : u = t <;> simp [h])

theorem run_recv_ok {s : St} {t : Nat} (ht : s.thr t = .idle) (hl : s.locked = false) (hne : s.tail - s.head > 0) :
    run s (recvActs t) = setThr (deq s t) t (.done (.got (s.buf (s.head % s.N)))) := by
  simp [recvActs, run, apply, step, ht, hl, hne]
  exact St.ext_ring rfl rfl (fun u => by by_cases h : u = t <;> simp [h, deq])

theorem run_recv_empty {s : St} {t : Nat} (ht : s.thr t = .idle) (hl : s.locked = false)
    (hemp : ¬ s.tail - s.head > 0) :
    run s [.recv t, .step t, .step t, .step t, .step t] = setThr s t (.done .empty) := by
  simp [run, apply, step, ht, hl, hemp]
  exact St.ext_ring rfl hl.symm (fun u => by by_cases h : u = t <;> simp [h])

theorem unlocked_of_others_idle {s : St} (h : Inv s) {t : Nat} (ho : ∀ u, u ≠ t → s.thr u = .idle)
    (ht : ¬ holder (s.thr t)) : s.locked = false :=
  h.excl.free_of_solo (fun u hu => by simp [ho u hu, holder]) ht

theorem unlocked_of_idle {s : St} (h : Inv s) (hidle : ∀ u, s.thr u = .idle) : s.locked = false :=
  unlocked_of_others_idle (t := 0) h (fun u _ => hidle u) (by simp [hidle, holder])

theorem ack_done (s : St) (t : Nat) (r : Res) : apply (setThr s t (.done r)) (.ack t) = setThr s t .idle := by
  simp [apply, setThr_setThr]

theorem soloSend_ok {s : St} {t : Nat} (v : Nat) (ht : s.thr t = .idle) (hl : s.locked = false)
    (hroom : s.tail - s.head < s.N) : soloSend s t v = (enq s v, .done (.sent (s.tail - s.head + 1))) := by
  simp only [soloSend, run_send_ok v ht hl hroom, thr_setThr, if_true, ack_done, setThr_self (s := enq s v) ht]

theorem soloSend_full {s : St} {t : Nat} (v : Nat) (ht : s.thr t = .idle) (hl : s.locked = false)
    (hfull : ¬ s.tail - s.head < s.N) : soloSend s t v = (s, .done .full) := by
  -- the two further steps of `sendActs` find the call done
  have e : run s (sendActs t v) = setThr s t (.done .full) := by
    rw [show sendActs t v = [.send t v, .step t, .step t, .step t] ++ [.step t, .step t] from rfl, run_append,
      run_send_full v ht hl hfull]
    simp [run, apply, step]
  simp only [soloSend, e, thr_setThr, if_true, ack_done, setThr_self ht]

theorem soloRecv_ok {s : St} {t : Nat} (ht : s.thr t = .idle) (hl : s.locked = false) (hne : s.tail - s.head > 0) :
    soloRecv s t = (deq s t, .done (.got (s.buf (s.head % s.N)))) := by
  simp only [soloRecv, run_recv_ok ht hl hne, thr_setThr, if_true, ack_done, setThr_self (s := deq s t) ht]

theorem soloRecv_empty {s : St} {t : Nat} (ht : s.thr t = .idle) (hl : s.locked = false)
    (hemp : ¬ s.tail - s.head > 0) :
    soloRecv s t = (s, .done .empty) := by
  have e : run s (recvActs t) = setThr s t (.done .empty) := by
    rw [show recvActs t = [.recv t, .step t, .step t, .step t, .step t] ++ [.step t, .step t] from rfl, run_append,
      run_recv_empty ht hl hemp]
    simp [run, apply, step]
  simp only [soloRecv, e, thr_setThr, if_true, ack_done, setThr_self ht]

theorem soloSend_fst (s : St) (t v : Nat) : (soloSend s t v).1 = run s (sendActs t v ++ [.ack t]) := by
  simp [soloSend, run_append]

theorem soloRecv_fst (s : St) (t : Nat) : (soloRecv s t).1 = run s (recvActs t ++ [.ack t]) := by
  simp [soloRecv, run_append]

theorem reachable_fill {n : Nat} (t : Nat) (vs : List Nat) {s : St} (h : Reachable n s) :
    Reachable n (fill t s vs).1 := by
  induction vs generalizing s with
  | nil => exact h
  | cons v vs ih => exact ih (by rw [soloSend_fst]; exact reachable_run h _)

theorem reachable_drain {n : Nat} (t k : Nat) {s : St} (h : Reachable n s) : Reachable n (drain t s k).1 := by
  induction k generalizing s with
  | zero => exact h
  | succ k ih => exact ih (by rw [soloRecv_fst]; exact reachable_run h _)

theorem fill_spec (t : Nat) {s : St} (h : Inv s) (hidle : ∀ u, s.thr u = .idle) (vs : List Nat)
    (hk : (abs s).length + vs.length ≤ s.N) :
    (fill t s vs).2 = (List.range' ((abs s).length + 1) vs.length).map (fun l => Loc.done (.sent l))
    ∧ abs (fill t s vs).1 = abs s ++ vs
    ∧ (∀ u, (fill t s vs).1.thr u = .idle)
    ∧ (fill t s vs).1.N = s.N := by
  induction vs generalizing s with
  | nil => simp [fill, hidle]
  | cons v vs ih =>
    simp only [List.length_cons] at hk
    have hlen := abs_length h
    have e := soloSend_ok v (hidle t) (unlocked_of_idle h hidle) (by omega)
    have ha : abs (enq s v) = abs s ++ [v] := h.data.drop_snoc v
    have hi : Inv (soloSend s t v).1 := by rw [soloSend_fst]; exact inv_run _ _ h
    rw [e] at hi
    obtain ⟨i1, i2, i3, i4⟩ := ih hi hidle (by rw [ha, List.length_append]; show _ ≤ s.N; simp; omega)
    simp only [fill, e]
    exact ⟨by rw [i1, ha]; simp [List.range'_succ, hlen], by rw [i2, ha]; simp, i3, i4⟩

theorem drain_spec (t : Nat) {s : St} (h : Inv s) (hidle : ∀ u, s.thr u = .idle) (xs ys : List Nat)
    (hxs : abs s = xs ++ ys) :
    (drain t s xs.length).2 = xs.map (fun x => Loc.done (.got x))
    ∧ abs (drain t s xs.length).1 = ys
    ∧ (∀ u, (drain t s xs.length).1.thr u = .idle) := by
  induction xs generalizing s with
  | nil => simpa [drain, hidle] using hxs
  | cons x xs ih =>
    have hlt : s.head < s.tail := by have := abs_length h; simp [hxs] at this; omega
    have e := soloRecv_ok (hidle t) (unlocked_of_idle h hidle) (by omega)
    have hc : abs s = _ := h.data.drop_cons hlt
    rw [hxs, List.cons_append, List.cons.injEq] at hc
    have hi : Inv (soloRecv s t).1 := by rw [soloRecv_fst]; exact inv_run _ _ h
    rw [e] at hi
    obtain ⟨i1, i2, i3⟩ := ih hi hidle hc.2.symm
    simp only [List.length_cons, drain, List.map_cons, e]
    exact ⟨by rw [i1, hc.1], i2, i3⟩

/-! ## C20: a suspended flag holder blocks everybody; without one, a solo thread finishes -/

def notBy (u : Nat) (a : Act) : Prop := actor a ≠ u

instance (u : Nat) (a : Act) : Decidable (notBy u a) := by unfold notBy; infer_instance

def waitingP (w : Nat) (l : Loc) : Prop := l = .pLock w ∨ l = .pSpin w
def waitingC (l : Loc) : Prop := l = .cLock ∨ l = .cSpin

/-- Program points a `send`/`recv`-calling thread can be at without ever having held the flag since it was idle:
idle, waiting for the flag, or inside the lock-free `len`. -/
def blockedLoc : Loc → Prop
  | .idle | .pLock _ | .pSpin _ | .cLock | .cSpin | .lLen | .lLenH _ | .done (.len _) => True
  | _ => False

/-- A set of program points that no action takes a thread out of while the flag is held. -/
def Stuck (P : Loc → Prop) : Prop :=
  ∀ s a, s.locked = true → ∀ t, P (s.thr t) → P ((apply s a).thr t)

/-- For `Stuck P` it is enough to look at steps taken with the flag held, at the calls and at the acknowledgement. -/
theorem Stuck.of_next {P : Loc → Prop} (h1 : ∀ s l, s.locked = true → P l → P (next s l))
    (h2 : P .idle → (∀ v, P (.pLock v)) ∧ P .cLock ∧ P .lLen) (h3 : ∀ r, P (.done r) → P .idle) : Stuck P := by
  intro s a hl u hp
  by_cases e : u = actor a
  · subst e
    cases a with
    | step t => simp only [actor, apply, step_thr_self] at hp ⊢; exact h1 s _ hl hp
    | send t v | recv t | len t => simp only [actor, apply] at hp ⊢; split <;> simp_all
    | ack t => simp only [actor, apply] at hp ⊢; split <;> simp_all <;> exact h3 _ hp
  · rw [apply_thr_ne s a u e]; exact hp

theorem stuck_waitingP (w : Nat) : Stuck (waitingP w) :=
  .of_next (by rintro s l hl (rfl | rfl) <;> simp [next, hl, waitingP]) (by simp [waitingP]) (by simp [waitingP])

theorem stuck_waitingC : Stuck waitingC :=
  .of_next (by rintro s l hl (rfl | rfl) <;> simp [next, hl, waitingC]) (by simp [waitingC]) (by simp [waitingC])

theorem stuck_blockedLoc : Stuck blockedLoc :=
  .of_next (fun s l hl => by cases l <;> simp [next, hl, blockedLoc]) (by simp [blockedLoc]) (by simp [blockedLoc])

/-- While `u` is inside the region and takes no action, nobody's action moves `u`, writes to the ring, or takes a thread
out of a stuck set. -/
theorem blocked_run {s : St} (h : Inv s) {u : Nat} (hu : holder (s.thr u)) (as : List Act)
    (hnb : ∀ a ∈ as, notBy u a) :
    (run s as).thr u = s.thr u ∧ ring (run s as) = ring s
    ∧ ∀ P, Stuck P → ∀ t, P (s.thr t) → P ((run s as).thr t) := by
  refine (List.foldlRecOn as apply (motive := fun s' => Inv s' ∧ s'.thr u = s.thr u ∧ ring s' = ring s
      ∧ ∀ P, Stuck P → ∀ t, P (s.thr t) → P (s'.thr t)) ⟨h, rfl, rfl, fun _ _ _ hp => hp⟩ ?_).2
  intro s' ⟨hi, e1, e2, e3⟩ a ha
  have hu' : holder (s'.thr u) := e1 ▸ hu
  have hau := hnb a ha
  -- only the holder writes, and the flag it holds keeps stuck threads where they are
  exact ⟨inv_apply s' a hi, (apply_thr_ne s' a u hau.symm).trans e1,
    (ring_apply s' a fun _ e hw => hau (e ▸ hi.mutex _ u (holder_of_writes hw) hu')).trans e2,
    fun P hP t hp => hP s' a (hi.lockIff.2 ⟨u, hu'⟩) t (e3 P hP t hp)⟩

/-- Own steps still to go for a thread that is inside the region or finds the flag free. -/
def togo : Loc → Nat
  | .idle | .done _ => 0
  | .pUnlocked _ | .pFullUnlocked | .cUnlocked _ | .cEmptyUnlocked | .lLenH _ => 1
  | .pPublish _ _ | .cRelease _ | .lLen => 2
  | .pWrite _ _ | .cRead => 3
  | .pCheck _ | .cLen => 4
  | .pLock _ | .pSpin _ | .cLenT => 5
  | .cLock | .cSpin => 6

theorem togo_le (l : Loc) : togo l ≤ 6 := by cases l <;> exact Nat.le_of_ble_eq_true rfl

theorem togo_eq_zero {l : Loc} (h : togo l = 0) : l = .idle ∨ ∃ r, l = .done r := by cases l <;> simp_all [togo]

theorem togo_step (s : St) (t : Nat) (hf : Sole holder s.locked s.thr t) (h0 : togo (s.thr t) ≠ 0) :
    togo ((step s t).thr t) < togo (s.thr t) ∧ (step s t).thr t ≠ .idle
    ∧ Sole holder (step s t).locked (step s t).thr t := by
  unfold step
  split <;> next ht =>
    simp only [Sole, ht, togo, holder, false_or, ne_eq, not_true_eq_false] at hf h0 <;> (try split) <;>
      simp_all [Sole, togo, holder]

theorem finishes_togo {s : St} {t : Nat} (hi : s.thr t ≠ .idle) (hf : Sole holder s.locked s.thr t) :
    ∃ k, k ≤ togo (s.thr t) ∧ ∃ r, (run s (List.replicate k (.step t))).thr t = .done r := by
  obtain ⟨k, hk, h0, hi', -⟩ := foldl_replicate_of_measure (f := apply) (a := .step t) (m := fun s => togo (s.thr t))
    (ok := fun s => s.thr t ≠ .idle ∧ Sole holder s.locked s.thr t) (fun s h h0 => togo_step s t h.2 h0) s
    ⟨hi, hf⟩
  exact ⟨k, hk, (togo_eq_zero h0).resolve_left hi'⟩

end Mutiny.LockRing
