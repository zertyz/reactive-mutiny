import Mutiny.Model.Wake

/-!
# C20 at the channel level (model M8): what a suspended asynchronous send holds while it is suspended

`Props/C20.lean` / `C20_LockRing.lean` state C20 on the ring models.  Here the same two facts are stated on the channel model M8 (two-phase
publication, `Mutiny/Model/Wake.lean`), where the asynchronous sends of the different channel flavours live side by side:

* a **zero-copy / Multi** `send_with_async` (`asyncZc`) allocates its payload slot and suspends *outside* the queue: it holds no claim, so it
  never stands between another producer and its publication — `c20_claim_publishes_when_oldest` holds whatever number of such sends are
  suspended, for however long;
* a **movable atomic** `send_with_async` (`asyncMov`) suspends *holding its claim*: every later claim spins at its publication step until the
  suspended setter is resumed — `c20_blocked_behind_suspended_claim` (finding D8a, exhibited on the real channel by `uni sub=susp`).
-/

namespace Mutiny.Wake

/-- a claim that is the oldest outstanding one publishes at its very next own step (and goes on to measure the length) — whoever else is
    suspended, parked, or in the middle of anything -/
theorem c20_claim_publishes_when_oldest (s : St) (t v slot : Nat) (r : Rule) (x : Nat) (rest : List (Nat × Nat))
    (ht : s.thr t = .pClm v slot r) (hr : s.resv = (t, x) :: rest) :
    (stepP s t).thr t = .pSmp s.accepted.length r ∧ (stepP s t).q = s.q ++ [v] ∧ (stepP s t).resv = rest ∧
      (stepP s t).accepted = s.accepted ++ [v] := by
  simp [stepP, ht, hr, setThr]

/-- two own steps take the oldest claim to the wake decision: after the publication and the length measurement it is
    inside `wake_stream` or done -/
theorem c20_claim_two_steps (s : St) (t v slot : Nat) (r : Rule) (x : Nat) (rest : List (Nat × Nat))
    (ht : s.thr t = .pClm v slot r) (hr : s.resv = (t, x) :: rest) :
    (∃ j, (stepP (stepP s t) t).thr t = .wWake j .ok) ∨ (stepP (stepP s t) t).thr t = .done .ok := by
  have h1 := (c20_claim_publishes_when_oldest s t v slot r x rest ht hr).1
  generalize stepP s t = s1 at h1 ⊢
  simp only [stepP, h1, afterPublishR]
  split <;> simp [setThr]

/-- a zero-copy asynchronous send holds no claim while suspended: starting it leaves the reservation list alone -/
theorem c20_async_zc_holds_no_claim (s : St) (t v : Nat) : (apply s (.asyncZc t v)).resv = s.resv := by
  simp only [apply]
  split
  · split <;> simp [setThr]
  · rfl

/-- **finding D8a at the channel level.**  While the oldest claim belongs to a suspended movable asynchronous send (thread `u`), a later
    claimer `t` makes no progress: however many own steps it takes, it is still at its publication step and nothing was published -/
theorem c20_blocked_behind_suspended_claim (s : St) (t u v slot x : Nat) (r : Rule) (rest : List (Nat × Nat))
    (htu : t ≠ u) (ht : s.thr t = .pClm v slot r) (hr : s.resv = (u, x) :: rest) (k : Nat) :
    let s' := run s (List.replicate k (.stepP t))
    s'.thr t = .pClm v slot r ∧ s'.q = s.q ∧ s'.resv = s.resv := by
  have fix : stepP s t = s := by simp [stepP, ht, hr, Ne.symm htu]
  have hrun : run s (List.replicate k (.stepP t)) = s := by
    induction k with
    | zero => rfl
    | succ k ih => simpa [List.replicate_succ, run, apply, fix] using ih
  simp only [hrun]
  exact ⟨ht, trivial, trivial⟩

/-! ## non-vacuity -/

/-- thread 0 suspends inside a movable atomic `send_with_async`; thread 1's plain send claims the next sequence number and spins (50 own steps
    later it has still not published); once thread 0 is resumed and has published, thread 1 publishes at its next step -/
example :
    let s := run (init 8 2 1 .atomic false) [.asyncMov 0 10, .claim 1 20]
    s.thr 0 = .aSusp 10 0 ∧ s.thr 1 = .pClm 20 1 .atomic ∧ s.resv = [(0, 10), (1, 20)] ∧
    (run s (List.replicate 50 (.stepP 1))).q = [] ∧
    (run s [.resume 0, .stepP 0, .stepP 1]).q = [10, 20] := by decide

/-- a suspended zero-copy send does not stand in anybody's way: the other producer's event is published, measured and announced -/
example :
    let s := run (init 8 2 1 .atomic true) [.asyncZc 0 10, .claim 1 20, .stepP 1, .stepP 1]
    s.thr 0 = .zSusp 10 ∧ s.q = [20] ∧ s.thr 1 = .wWake 0 .ok := by decide

end Mutiny.Wake

#print axioms Mutiny.Wake.c20_claim_publishes_when_oldest
#print axioms Mutiny.Wake.c20_claim_two_steps
#print axioms Mutiny.Wake.c20_async_zc_holds_no_claim
#print axioms Mutiny.Wake.c20_blocked_behind_suspended_claim
