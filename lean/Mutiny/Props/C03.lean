import Mutiny.Proofs.MultiFan

/-!
# C03 — every listener of a Multi channel receives every event exactly once, in publication order

Model M6 + M7 (`Mutiny/Model/Multi.lean`), both fan-out flavours (`arc`, `ogreArc`).  Scope: any quiescent well-formed
state `s₀` (`WF`, e.g. the result of any legal sequential set-up, `c10_bookkeeping`), followed by ANY execution `as`
made of `.send`, `.poll`, `.release`, `.cancel`, `.step`, `.ack` actions (`FanAct`: no `create`, no `drop`) — any number
of producer and consumer threads, any interleaving of their micro-steps, any length.  The listener set is `L = s₀.live`.
The events passed to `.send` are pairwise distinct (`(sendEvs as).Nodup`); they are identities of payloads.
`P`, `S`, `D` below are what the execution appended to the ghost logs `pubs`, `sent`, `delivered` of `s₀`.

What happens when `create` / `drop` run concurrently with a send is C17 (`Mutiny/Props/C17.lean`): the claims fail.
-/

namespace Mutiny.Multi

/-- **C03 (frame).**  Without `create` / `drop` nothing of the bookkeeping ever changes — `used`, `count`, `vacant`,
    `live`, the lock, the incarnations — and no thread is ever inside `create`, `drop` or `sync`; `keep j` is cleared by
    `.cancel j` (`cancel_stream`) and otherwise never changes: cancelling a listener does not take it out of the fan-out.
    (No hypothesis on the events.) -/
theorem c03_frame (s₀ : St) (hw : WF s₀) (as : List Act) (hfa : ∀ a ∈ as, FanAct a) :
    let s := run s₀ as
    s.MAX = s₀.MAX ∧ s.used = s₀.used ∧ s.count = s₀.count ∧ s.vacant = s₀.vacant ∧ s.live = s₀.live ∧
      s.slock = s₀.slock ∧ (∀ j, s.keep j = if j ∈ cancelIds as then false else s₀.keep j) ∧ s.inc = s₀.inc ∧
      s.flavor = s₀.flavor ∧ s.N = s₀.N ∧ s.drains = s₀.drains ∧ (∀ t, FanLoc (s.thr t)) := by
  intro s
  have r := fanRun_run as hfa hw.fanLoc
  have f := frame_of_eq r.frame
  exact ⟨f.MAX, f.used, f.count, f.vacant, f.live, f.slock, r.keep, f.inc, f.flavor, f.N, f.drains, r.loc⟩

/-- **C03 (exact fan-out).**  For every event whose send completed (`ev ∈ S`) and every listener `l ∈ L`, `(ev, l)` was
    published exactly once, and never for `l ∉ L`; for a send still in progress (or rejected: pool full) every `(ev, l)`
    was published at most once and only for `l ∈ L`; only events passed to `.send` are ever published. -/
theorem c03_fanout_exact (s₀ : St) (hw : WF s₀) (as : List Act) (hfa : ∀ a ∈ as, FanAct a)
    (hnd : (sendEvs as).Nodup) :
    let s := run s₀ as
    ∃ P S, s.pubs = s₀.pubs ++ P ∧ s.sent = s₀.sent ++ S ∧
      (∀ ev ∈ S, ∀ l, P.count (ev, l) = if l ∈ s₀.live then 1 else 0) ∧
      (∀ ev l, P.count (ev, l) ≤ 1) ∧
      (∀ ev l, l ∉ s₀.live → (ev, l) ∉ P) ∧
      (∀ x ∈ P, x.1 ∈ sendEvs as) ∧ (∀ ev ∈ S, ev ∈ sendEvs as) := by
  intro s
  obtain ⟨P, S, D, h⟩ := fanInv_run_wf_nil hw as hfa hnd
  exact ⟨P, S, h.pubsEq, h.sentEq, fun ev he l => h.count_done hw he l, h.count_le_one,
    fun ev l hl => h.not_mem_of_not_live hw hl, fun x hx => h.core.mem_E hx, fun ev he => (h.core.fin ev he).1⟩

/-- a completed send served the listeners in ascending id order; a send in progress has served a prefix of them -/
theorem c03_fanout_prefix (s₀ : St) (hw : WF s₀) (as : List Act) (hfa : ∀ a ∈ as, FanAct a)
    (hnd : (sendEvs as).Nodup) :
    let s := run s₀ as
    ∃ P S, s.pubs = s₀.pubs ++ P ∧ s.sent = s₀.sent ++ S ∧
      (∀ ev ∈ S, pubsOf P ev = usedIds s₀.MAX s₀.vacant) ∧
      (∀ ev, ∃ i, pubsOf P ev = (usedIds s₀.MAX s₀.vacant).take i) ∧
      (usedIds s₀.MAX s₀.vacant).Perm s₀.live := by
  intro s
  obtain ⟨P, S, D, h⟩ := fanInv_run_wf_nil hw as hfa hnd
  exact ⟨P, S, h.pubsEq, h.sentEq, fun ev he => (h.core.fin ev he).2,
    fun ev => (h.core.pubsOf_eq_take ev).imp (fun i hi => hi.2), hw.usedIds_perm⟩

/-- **C03 (listener order).**  For every listener `l`: the events delivered to `l` followed by the events still queued
    for `l` are the events that were queued at the start followed by the events published to `l`, in publication order.
    So each listener receives exactly what was published to it — nothing else, nothing twice, nothing reordered.
    (No hypothesis on the events.) -/
theorem c03_listener_order (s₀ : St) (hw : WF s₀) (as : List Act) (hfa : ∀ a ∈ as, FanAct a) :
    let s := run s₀ as
    ∃ P D, s.pubs = s₀.pubs ++ P ∧ s.delivered = s₀.delivered ++ D ∧
      ∀ l, dlvOf D l ++ s.queues l = s₀.queues l ++ pubsTo P l := by
  exact (fanRun_run as hfa hw.fanLoc).order ⟨[], [], by simp, by simp, by simp⟩

/-- **C03 (producer order, real time).**  If the send of `ev₁` completed before the send of `ev₂` was invoked, then
    every publication of `ev₁` precedes every publication of `ev₂`; with `c03_listener_order` every listener receives
    `ev₁` before `ev₂`.  (Two sends of ONE thread are always in this relation: `c03_thread_order`.) -/
theorem c03_producer_order (s₀ : St) (hw : WF s₀) (as₁ as₂ : List Act) (hfa : ∀ a ∈ as₁ ++ as₂, FanAct a)
    (hnd : (sendEvs (as₁ ++ as₂)).Nodup) :
    ∃ P₁ P₂ S₁, (run s₀ as₁).pubs = s₀.pubs ++ P₁ ∧ (run s₀ (as₁ ++ as₂)).pubs = s₀.pubs ++ (P₁ ++ P₂) ∧
      (run s₀ as₁).sent = s₀.sent ++ S₁ ∧
      (∀ ev₁ ∈ S₁, ∀ l, (ev₁, l) ∉ P₂) ∧ (∀ ev₂ ∈ sendEvs as₂, ∀ l, (ev₂, l) ∉ P₁) := by
  obtain ⟨P₁, S₁, D₁, P₂, S₂, D₂, h1, h2⟩ := fanInv_split hw as₁ as₂ hfa hnd
  refine ⟨P₁, P₂, S₁, h1.pubsEq, h2.pubsEq, h1.sentEq, fun ev he => h1.sealed h2 he, fun ev he => ?_⟩
  rw [sendEvs_append] at hnd
  exact not_mem_of_pubsOf_nil (h1.core.fresh fun h => (List.nodup_append.1 hnd).2.2 ev h ev he rfl).2.2

/-- **C03 (one producer thread).**  Two `.send` actions of the same thread `t`, `ev₁` first: every publication of `ev₁`
    precedes every publication of `ev₂` (to any listener): the publications split as `P₁ ++ P₂` at the second `.send`
    with no `ev₂` in `P₁`, and no `ev₁` in `P₂` — or no `ev₂` at all, when the second `.send` found the thread still busy
    with the first call and therefore had no effect.  With `c03_listener_order`: every listener receives the events of one
    producer thread in that thread's call order. -/
theorem c03_thread_order (s₀ : St) (hw : WF s₀) (t ev₁ ev₂ : Nat) (as₁ as₂ as₃ : List Act)
    (hfa : ∀ a ∈ (as₁ ++ .send t ev₁ :: as₂) ++ .send t ev₂ :: as₃, FanAct a)
    (hnd : (sendEvs ((as₁ ++ .send t ev₁ :: as₂) ++ .send t ev₂ :: as₃)).Nodup) :
    ∃ P₁ P₂, (run s₀ (as₁ ++ .send t ev₁ :: as₂)).pubs = s₀.pubs ++ P₁ ∧
      (run s₀ ((as₁ ++ .send t ev₁ :: as₂) ++ .send t ev₂ :: as₃)).pubs = s₀.pubs ++ (P₁ ++ P₂) ∧
      (∀ l, (ev₂, l) ∉ P₁) ∧ ((∀ l, (ev₁, l) ∉ P₂) ∨ (∀ l, (ev₂, l) ∉ P₁ ++ P₂)) := by
  obtain ⟨P₁, S₁, D₁, P₂, S₂, D₂, h1, h2⟩ := fanInv_split hw _ _ hfa hnd
  obtain ⟨nd1, nd2, nd3⟩ := List.nodup_append.1 (sendEvs_append .. ▸ hnd)
  have hfa1 : ∀ a ∈ as₁ ++ .send t ev₁ :: as₂, FanAct a := fun a ha => hfa a (List.mem_append_left _ ha)
  have r := fanRun_run _ hfa1 hw.fanLoc
  have he1 : ev₁ ∈ sendEvs (as₁ ++ .send t ev₁ :: as₂) := mem_sendEvs_of_mem (u := t) (by simp)
  have he2 : ev₂ ∈ sendEvs (.send t ev₂ :: as₃) := mem_sendEvs_of_mem (u := t) (by simp)
  obtain ⟨f1, f2, f3⟩ := h1.core.fresh fun h => nd3 ev₂ h ev₂ he2 rfl
  refine ⟨P₁, P₂, h1.pubsEq, h2.pubsEq, not_mem_of_pubsOf_nil f3, ?_⟩
  -- the three fates of `ev₁` at the moment of the second `.send`
  by_cases hs : ev₁ ∈ S₁
  · exact .inl (h1.sealed h2 hs)
  · by_cases ha : ∃ u i, prog ((run s₀ (as₁ ++ .send t ev₁ :: as₂)).thr u) = some (ev₁, i)
    · -- still being sent — by `t` itself: the second `.send` has no effect, `ev₂` is never published
      obtain ⟨u, i, hu⟩ := ha
      have hown := (r.sending u ev₁ i hu).resolve_left fun ⟨_, h⟩ => by rw [hw.idle u] at h; cases h
      obtain rfl : u = t := send_unique (e := ev₁) nd1 hown (by simp)
      have hrun : run s₀ ((as₁ ++ .send u ev₁ :: as₂) ++ .send u ev₂ :: as₃) =
          run (run s₀ (as₁ ++ .send u ev₁ :: as₂)) as₃ := by
        rw [run_append, run_cons]
        simp only [apply, if_neg fun h : (run s₀ (as₁ ++ .send u ev₁ :: as₂)).thr u = .idle => by rw [h] at hu; cases hu]
      rw [sendEvs_cons, List.nodup_append] at nd2
      exact .inr (h1.never_pub (hrun ▸ h2) (fun a ha => hfa a (by simp [ha])) f1 f2
        fun h => nd2.2.2 ev₂ (by simp [sendOf]) ev₂ h rfl)
    · -- never started (thread busy or pool full): `ev₁` is never published at all
      refine .inl fun l hm => h1.never_pub (run_append .. ▸ h2) (fun a ha => hfa a (List.mem_append_right _ ha)) hs
        (fun u i h => ha ⟨u, i, h⟩) (fun h => nd3 ev₁ he1 ev₁ h rfl) l (List.mem_append_right _ hm)

/-- **C03 (reference counter, ogre_arc).**  Assume the events sent are new (not sitting in a queue at the start) and
    consumers release only handles they received (`RelOK`: at each `.release ev`, fewer releases of `ev` so far than
    deliveries of `ev`; `.release` decrements unconditionally in the model).  Then for every completed send:
    `refs ev + releases ev = |L|` — one reference per listener, none for the producer any more — i.e.
    `refs ev` = copies not yet delivered (`|L| - deliveries`) + copies delivered and not yet released; in particular
    `refs ev = 0` (the slot returns to the pool) once all `|L|` copies were released: nothing leaks while the listener set
    is fixed.  While the send is in progress (`fOgre`), the counter additionally holds the producer's own reference. -/
theorem c03_refs (s₀ : St) (hw : WF s₀) (hfl : s₀.flavor = .ogreArc) (as : List Act) (hfa : ∀ a ∈ as, FanAct a)
    (hnd : (sendEvs as).Nodup) (hq0 : ∀ ev ∈ sendEvs as, ∀ l, ev ∉ s₀.queues l)
    (hrel : RelOK s₀ (sendEvs as) s₀ [] as) :
    let s := run s₀ as
    ∃ S D, s.sent = s₀.sent ++ S ∧ s.delivered = s₀.delivered ++ D ∧
      (∀ ev ∈ S, s.refs ev + (relEvs as).count ev = s₀.live.length ∧
        (relEvs as).count ev ≤ dcount D ev ∧ dcount D ev ≤ s₀.live.length ∧
        s.refs ev = (s₀.live.length - dcount D ev) + (dcount D ev - (relEvs as).count ev) ∧
        ((relEvs as).count ev = s₀.live.length → s.refs ev = 0)) ∧
      (∀ t ev i cnt, s.thr t = .fOgre ev i cnt → s.refs ev + (relEvs as).count ev = 1 + s₀.live.length) := by
  dsimp only  -- unfolds the `let`: `rw` and `omega` below must see one term for the final state
  obtain ⟨P, S, D, h⟩ := fanInv_run_wf hw (sendEvs as) as hq0 hfa hnd hrel
  refine ⟨S, D, h.sentEq, h.dlvEq, fun ev he => ?_, fun t ev i cnt ht => ?_⟩
  · have hE : ev ∈ sendEvs as := (h.core.fin ev he).1
    have h1 := h.refsS ((frame_of_eq h.frame).flavor.trans hfl) ev he hE
    have h2 := h.rel_le_pubs hq0 hE
    rw [hw.usedIds_length] at h1 h2
    refine ⟨h1, h2.1, by omega, by omega, by omega⟩
  · have hl := h.lok t
    rw [ht] at hl
    have hE : ev ∈ sendEvs as := (h.core.act t ev i (by simp [ht, prog])).1
    have := hl.2.2 hE
    rwa [hw.usedIds_length] at this

/-! ## non-vacuity -/

/-- two producers (threads 0, 1) fan events 7 and 8 out to listeners `{0,1}` with their micro-steps interleaved, a
    consumer (thread 2) polls and releases, listener 1 is cancelled in the middle of both sends (and still gets and
    consumes everything), then thread 0 starts sending 9 and is stopped half-way -/
def fanWitness : List Act :=
  [.send 0 7, .send 1 8, .step 0, .cancel 1, .step 1, .step 0, .step 1, .poll 2 0, .step 2, .ack 2, .step 0, .step 1, .ack 0,
   .ack 1,
   .release 7, .poll 2 1, .step 2, .ack 2, .poll 2 0, .step 2, .ack 2, .release 8, .poll 2 1, .step 2, .ack 2, .release 7,
   .send 0 9, .step 0, .step 0]

/-- the hypotheses of all C03 theorems hold of `fanWitness` from a sequentially set-up state (both flavours) -/
example (f : Flavor) :
    WF (setup 3 2 f) ∧ (∀ a ∈ fanWitness, FanAct a) ∧ (sendEvs fanWitness).Nodup ∧
      (∀ ev ∈ sendEvs fanWitness, ∀ l, ev ∉ (setup 3 2 f).queues l) := by
  cases f <;> exact ⟨wf_setup _ _ _ (by decide), by decide, by decide, fun _ _ _ => List.not_mem_nil⟩

/-- … including `RelOK`; the execution does what the theorems say: 7 and 8 completed and reached both listeners in the
    same order, 9 is half-way (listener 0 only); all copies of 7 were released (`refs 7 = 0`), one copy of 8 is still
    held (`refs 8 = 1`), 9 carries the producer's reference and two copies (`refs 9 = 3`) -/
example :
    let s₀ := setup 3 2 .ogreArc
    let s := run s₀ fanWitness
    RelOK s₀ (sendEvs fanWitness) s₀ [] fanWitness ∧ s₀.flavor = .ogreArc ∧ s₀.live = [0, 1] ∧
      s.pubs = [(7, 0), (8, 0), (7, 1), (8, 1), (9, 0)] ∧ s.sent = [7, 8] ∧
      s.delivered = [(0, 1, 7), (1, 1, 7), (0, 1, 8), (1, 1, 8)] ∧ s.queues 0 = [9] ∧ s.queues 1 = [] ∧
      s.refs 7 = 0 ∧ s.refs 8 = 1 ∧ s.refs 9 = 3 ∧ s.thr 0 = .fOgre 9 1 2 ∧ s.keep 0 = true ∧ s.keep 1 = false ∧
      cancelIds fanWitness = [1] := by
  decide

/-- the `arc` flavour on the same schedule (its `.send` already reads entry 0, so it is one listener ahead) -/
example :
    let s := run (setup 3 2 .arc) fanWitness
    s.pubs = [(7, 0), (8, 0), (7, 1), (8, 1), (9, 0), (9, 1)] ∧ s.sent = [7, 8] ∧
      s.delivered = [(0, 1, 7), (1, 1, 7), (0, 1, 8), (1, 1, 8)] ∧ s.queues 0 = [9] ∧ s.queues 1 = [9] ∧
      s.thr 0 = .fArc 9 2 3 := by
  decide

/-- `c03_producer_order` is not vacuous: split `fanWitness` after the 14th action (both sends completed) -/
example :
    (run (setup 3 2 .arc) (fanWitness.take 14)).sent = [7, 8] ∧ sendEvs (fanWitness.drop 14) = [9] := by
  decide

/-- `c03_thread_order` is not vacuous: thread 0 sends 7, later 9 -/
example :
    fanWitness = ([] ++ .send 0 7 :: (fanWitness.drop 1).take 25) ++ .send 0 9 :: [.step 0, .step 0] := by
  decide

/-- `RelOK` is necessary for `c03_refs`: a release before the delivery makes the counter hit 0 while copies exist -/
example :
    let s := run (setup 3 2 .ogreArc) [.send 0 7, .release 7, .step 0, .step 0, .step 0, .release 7, .release 7]
    7 ∈ s.sent ∧ s.refs 7 = 0 ∧ s.queues 0 = [7] ∧ s.queues 1 = [7] := by
  decide

end Mutiny.Multi

#print axioms Mutiny.Multi.c03_frame
#print axioms Mutiny.Multi.c03_fanout_exact
#print axioms Mutiny.Multi.c03_fanout_prefix
#print axioms Mutiny.Multi.c03_listener_order
#print axioms Mutiny.Multi.c03_producer_order
#print axioms Mutiny.Multi.c03_thread_order
#print axioms Mutiny.Multi.c03_refs
