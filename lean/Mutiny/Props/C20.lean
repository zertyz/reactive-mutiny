import Mutiny.Proofs.RingRsv

/-!
# C20 (ring part) — who can block whom

Scope: every `n > 0`, every `s` with `ReachableX n s`.
* A *suspended reservation* (`rHold`: reserved, not yet published — e.g. an async setter suspended at an `.await`) blocks
  every producer with a higher sequence number for as long as its owner does not act: model-level witness of finding
  D8 (movable atomic channel holds a ring reservation across an await).
* Without outstanding reservations a thread running alone finishes every call in at most 5 own steps.
* Consumers never wait for reservations.
-/

namespace Mutiny.Ring

variable {n : Nat} {s : St}

/-- `u` holds a reservation `id` and does not act; `t` has written a higher sequence number and spins on its publish CAS:
    whatever all the other threads do (any actions, any length, `t` included), `t` is still spinning and `tail ≤ id` -/
theorem c20_ring_blocked_by_suspended_reservation (hn : 0 < n) (hr : ReachableX n s) (u id t v id' len : Nat)
    (hu : s.thr u = .rHold id) (ht : s.thr t = .pPublish v id' len) (hlt : id < id')
    (as : List Act) (hnb : NotBy u as) (hok : RunOk s as) :
    (run s as).thr t = .pPublish v id' len ∧ (run s as).tail ≤ id ∧ (run s as).thr u = .rHold id ∧
    ReachableX n (run s as) := by
  have hi := reachable_inv hn hr
  have hu' := (run_thr_ne s as u hnb).trans hu
  exact ⟨blocked_behind hi (by rw [hu]; rfl) ht hlt hnb hok,
    ((inv_run s as hi hok).pRange u id (by simp [hu', holdsP])).1, hu', hr.run as hok⟩

/-- with every other thread `idle` (in particular no reservation outstanding) each call of `t` returns within 5 own steps
    (`send`: 5, or 3 when rejected; `recv`: 4 or 5; `len`: 2 — its two loads; `reserve`: 2 or 3) -/
theorem c20_solo_progress (hn : 0 < n) (hr : ReachableX n s) (t : Nat)
    (hothers : ∀ u, u ≠ t → s.thr u = .idle) (ht : s.thr t = .idle) :
    (∀ v, ∃ r, (run s [.send t v, .step t, .step t, .step t, .step t, .step t]).thr t = .done r) ∧
    (∃ r, (run s [.recv t, .step t, .step t, .step t, .step t, .step t]).thr t = .done r) ∧
    (s.N < 4294967296 → (run s [.len t, .step t, .step t]).thr t = .done (.len (abs s).length)) ∧
    ((abs s).length < s.N →
        (run s [.reserve t, .step t, .step t]).thr t = .rRet s.tail (.reserved (s.tail % s.N) (abs s).length)) ∧
    ((abs s).length = s.N → (run s [.reserve t, .step t, .step t, .step t]).thr t = .done .full) := by
  have hid := idle_all hothers ht
  have hi := reachable_inv hn hr
  have hq := quiescent_counters hi hid
  have hlen := abs_length hi
  have hTN := hi.hTN
  have hHT := hi.hHT
  refine ⟨fun v => ?_, ?_, ?_, ?_, ?_⟩
  · by_cases hroom : s.tail - s.head < s.N
    · exact ⟨_, (congrArg (·.thr t) (run_sendSolo_sent s t v ht hq.1 hroom)).trans (thr_setThr_self ..)⟩
    · exact ⟨_, (congrArg (·.thr t) (run_sendSolo_full s t v ht hq.1 hroom).1).trans (thr_setThr_self ..)⟩
  · rw [show run s [.recv t, .step t, .step t, .step t, .step t, .step t] = run s (recvSolo t ++ [.step t]) from rfl]
    by_cases hne : s.head < s.tail
    · rw [run_append, run_recvSolo_got s t ht hq.2 hne]
      exact ⟨_, (congrArg (·.thr t) (step_noop _ t (by rw [thr_setThr_self]; rfl))).trans (thr_setThr_self ..)⟩
    · rw [run_recvSolo_empty s t ht hq.2 (by omega)]; exact ⟨_, thr_setThr_self ..⟩
  · intro hN; rw [hlen]; exact solo_len s t ht hHT (by omega)
  · intro hroom; rw [hlen]; exact solo_reserve_ok s t ht hq.1 (by omega)
  · intro hfull; exact (solo_reserve_full s t ht hq.1 (by omega)).1

/-- consumers are unaffected by suspended reservations: with every other thread `idle` or holding a reservation, a `recv`
    by `t` returns the front element within 4 own steps if there is one, and `empty` within 5 otherwise -/
theorem c20_consumers_unaffected (hn : 0 < n) (hr : ReachableX n s) (t : Nat)
    (hothers : ∀ u, u ≠ t → s.thr u = .idle ∨ ∃ id, s.thr u = .rHold id) (ht : s.thr t = .idle) :
    (∀ x rest, abs s = x :: rest →
        let s' := run s [.recv t, .step t, .step t, .step t, .step t]
        s'.thr t = .done (.got x) ∧ abs s' = rest ∧ (∀ u, u ≠ t → s'.thr u = s.thr u)) ∧
    (abs s = [] →
        let s' := run s [.recv t, .step t, .step t, .step t, .step t, .step t]
        s'.thr t = .done .empty ∧ abs s' = [] ∧ (∀ u, u ≠ t → s'.thr u = s.thr u)) := by
  have hi := reachable_inv hn hr
  have hd := deqHead_eq_head hi fun u => by
    by_cases hut : u = t
    · rw [hut, ht]; rfl
    · rcases hothers u hut with e | ⟨id, e⟩ <;> rw [e] <;> rfl
  constructor
  · intro x rest hx s'
    obtain ⟨hne, rfl⟩ := abs_cons hi hx
    rw [show s' = _ from run_recvSolo_got s t ht hd hne]
    exact ⟨by simp, abs_deq hx, fun u hu => if_neg hu⟩
  · intro hemp s'
    rw [show s' = _ from run_recvSolo_empty s t ht hd ((abs_eq_nil_iff hi).mp hemp)]
    exact ⟨by simp, hemp, fun u hu => by simp [hu]⟩

/-! ## non-vacuity -/

/-- thread 0 reserves id 0 and is suspended; thread 1 sends (id 1), writes, and spins; a consumer (thread 2) asking
    meanwhile gets `empty`: the hypotheses of `c20_ring_blocked_by_suspended_reservation` hold, and 1 is still spinning
    after 50 more own steps -/
example : let s := run (init 2) [.reserve 0, .step 0, .step 0, .ack 0, .send 1 7, .step 1, .step 1, .step 1]
    ReachableX 2 s ∧ s.thr 0 = .rHold 0 ∧ s.thr 1 = .pPublish 7 1 1 ∧
    (run s (List.replicate 50 (.step 1))).thr 1 = .pPublish 7 1 1 ∧
    (run s [.recv 2, .step 2, .step 2, .step 2, .step 2, .step 2]).thr 2 = .done .empty :=
  ⟨reachableX_of_noCancel 2 _ (by intro t; simp), by decide, by decide, by decide, by decide⟩

/-- a consumer is served although a reservation is outstanding behind the published element -/
example : let s := run (init 2) [.send 1 7, .step 1, .step 1, .step 1, .step 1, .ack 1, .reserve 0, .step 0, .step 0, .ack 0]
    s.thr 0 = .rHold 1 ∧ abs s = [7] ∧ (run s [.recv 2, .step 2, .step 2, .step 2, .step 2]).thr 2 = .done (.got 7) := by
  decide

#print axioms c20_ring_blocked_by_suspended_reservation
#print axioms c20_solo_progress
#print axioms c20_consumers_unaffected

end Mutiny.Ring
