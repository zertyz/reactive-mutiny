import Mutiny.Props.C01
import Mutiny.Props.C02
import Mutiny.Proofs.RingRsv

/-!
# C18 (queue part) — the stand-alone non-blocking *atomic* queue is linearizable w.r.t. a bounded FIFO

The stand-alone queue is exactly `publish_movable` / `consume_movable` / `available_elements_count` of the ring `M1`
(`Model/Ring.lean`; actions `send`, `recv`, `len`, `step`, `ack`).  This file only packages C02 and C01: every
execution — any number of threads, any schedule, any length — refines the bounded FIFO `abs s` (capacity `N`) with
fixed linearization points: the successful `tail` CAS (enqueue at the back; the call then returns `sent`), the
successful `head` CAS (dequeue of the front; the call returns exactly that element), the `head` load of the emptiness
re-check (for `empty`) and the `head` load of the failed admission test (for `full`).
-/

namespace Mutiny.Ring

variable {n : Nat}

/-- C18, queue part: the queue API stays within `ReachableX`, where the ring is a bounded FIFO with fixed linearization
points, exact `empty` / `full` (C02) and exactly-once delivery in order (C01). -/
theorem c18_queue_linearizable (hn : 0 < n) :
    -- every execution of the queue API is in scope
    (∀ as : List Act, (∀ a ∈ as, queueAct a) → ReachableX n (run (init n) as)) ∧
    ∀ s, ReachableX n s →
      -- bounded
      (abs s).length ≤ s.N ∧
      -- each micro-step is invisible, or one enqueue at the back / one dequeue at the front returning the abstract
      -- result
      (∀ t, abs (step s t) = abs s
        ∨ (∃ v id len, s.thr t = .pPublish v id len ∧ abs (step s t) = abs s ++ [v] ∧ (abs s).length < s.N
              ∧ (step s t).thr t = .pLen id)
        ∨ (∃ id idx g, s.thr t = .rPub id idx g ∧ abs (step s t) = abs s ++ [s.buf idx] ∧ (abs s).length < s.N
              ∧ (step s t).thr t = .rLen g)
        ∨ (∃ id v, s.thr t = .cRelease id v ∧ abs s = v :: abs (step s t) ∧ (step s t).thr t = .done (.got v))) ∧
      -- calls and acknowledgements are invisible
      (∀ a, (∀ t, a ≠ .step t) → abs (apply s a) = abs s) ∧
      -- `empty` only with the witness "the queue was empty at the `head` load of this call"
      (∀ t, (s.thr t = .cChkHead → ((step s t).thr t = .cChkTail s.head true ↔ abs s = [])) ∧
            (∀ a, (apply s a).thr t = .done .empty → s.thr t = .done .empty ∨
                (a = .step t ∧ ∃ h, s.thr t = .cChkTail h true ∧ s.tail = h))) ∧
      -- `full` only with the witness "all `N` sequence numbers of the window were taken at the `head` load of this
      -- call"
      (∀ t, (∀ v id rsv, s.thr t = .pLoadHead v id rsv → ¬ (id - s.head < s.N) →
                (step s t).thr t = .pRecede v id rsv true ∧
                ∀ k, s.head ≤ k → k < s.head + s.N → k < s.tail ∨ ∃ u, u ≠ t ∧ holdsP (s.thr u) k) ∧
            (∀ a, (apply s a).thr t = .done .full → s.thr t = .done .full ∨
                (a = .step t ∧ ∃ v id rsv, s.thr t = .pRecede v id rsv true ∧ s.enqTail = id + 1))) ∧
      -- FIFO, exactly once
      s.delivered.map (·.2.2) = s.accepted.take s.head ∧ s.delivered.map (·.2.1) = List.range s.head ∧
      (s.delivered.map (·.2.1)).Nodup := by
  refine ⟨fun as h => reachableX_of_queueActs n as h, ?_⟩
  intro s hr
  refine ⟨(c02_capacity hn hr).2, fun t => c02_step_abs hn hr t, fun a h => c02_call_abs s a h, ?_, ?_,
    (c02_fifo hn hr).1, (c02_fifo hn hr).2, c01_delivered_distinct hn hr⟩
  · intro t
    have := c02_empty_witness hn hr t
    exact ⟨this.1, this.2.2.2⟩
  · intro t
    have := c02_full_witness hn hr t
    exact ⟨this.2.1, this.2.2⟩

/-! ## non-vacuity -/

/-- a queue-API execution reaching a full queue, and one delivering in FIFO order -/
example : (∀ a ∈ fullRun, queueAct a) ∧ (abs (run (init 2) fullRun)).length = 2 := by
  refine ⟨?_, by decide⟩
  intro a ha
  simp only [fullRun, List.mem_cons, List.not_mem_nil, or_false] at ha
  rcases ha with h | h | h | h | h | h | h | h | h | h | h | h | h | h <;> subst h <;> trivial

example :
    let s := run (init 2) (sendSolo 0 5 ++ [.ack 0] ++ sendSolo 0 6 ++ [.ack 0] ++ recvSolo 1 ++ [.ack 1] ++ recvSolo 1)
    s.delivered = [(1, 0, 5), (1, 1, 6)] ∧ abs s = [] := by decide

#print axioms c18_queue_linearizable

end Mutiny.Ring
