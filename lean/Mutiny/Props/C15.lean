import Mutiny.Proofs.U32

/-!
# C15 — the `u32` counters may wrap: every decision the rings take from them is the decision of the `Nat` model

`wrap x = x % 2^32` is the machine image of a free-running counter `x` of ANY magnitude (so also after more than `2^32`
events).  Each theorem states under which *window* condition (always a consequence of the ring invariant `Inv`,
`Proofs/RingInv.lean`) the machine computation of `Model/U32.lean` agrees with the `Nat` computation of `Model/Ring.lean`.
`N` a power of two is used only as `N ∣ 2^32` (`hN : M32 % N = 0`).
-/

namespace Mutiny.U32

/-- producer admission test and the reported `len_before` (window: `head ≤ id`, `id - head < 2^32`; the ring invariant gives
    `head ≤ tail ≤ id < enqTail` and `enqTail - head ≤ N + #claimants`) -/
theorem c15_admit (id head N : Nat) (h1 : head ≤ id) (h2 : id - head < M32) :
    admit32 (wrap id) (wrap head) N = decide (id - head < N) ∧ lenBefore32 (wrap id) (wrap head) = id - head := by
  unfold admit32 lenBefore32
  rw [wsub_wrap id head h1 h2]
  exact ⟨rfl, rfl⟩

/-- consumer emptiness test `(tail - id) as i32 > 0`: correct whenever `|tail - id| < 2^31` -/
theorem c15_has_item (tail id : Nat) (h1 : tail ≤ id + 2147483647) (h2 : id ≤ tail + 2147483648) :
    hasItem32 (wrap tail) (wrap id) = decide (id < tail) :=
  hasItem_wrap tail id h1 h2

/-- … the bounds follow from the ring invariant (`head ≤ id < deqHead` for a consumer-side holder, `head ≤ tail ≤ head + N`)
    when `N < 2^31` and fewer than `2^31` consumer claims are outstanding -/
theorem c15_has_item_ring (head tail deqHead id N : Nat) (hHT : head ≤ tail) (hTN : tail ≤ head + N)
    (hid1 : head ≤ id) (hid2 : id < deqHead) (hNs : N ≤ 2147483647) (hclaims : deqHead ≤ head + 2147483648) :
    hasItem32 (wrap tail) (wrap id) = decide (id < tail) :=
  c15_has_item tail id (by omega) (by omega)

/-- slot index -/
theorem c15_index (id N : Nat) (hN : M32 % N = 0) : index32 (wrap id) N = id % N :=
  mod_wrap id N hN

/-- `available_elements_count` -/
theorem c15_len (tail head : Nat) (h1 : head ≤ tail) (h2 : tail - head < M32) :
    len32 (wrap tail) (wrap head) = tail - head :=
  wsub_wrap tail head h1 h2

/-- full-sync admission test -/
theorem c15_fs_admit (tail head N : Nat) (h1 : head ≤ tail) (h2 : tail - head < M32) :
    fsAdmit32 (wrap tail) (wrap head) N = decide (tail - head < N) := by
  unfold fsAdmit32; rw [wsub_wrap tail head h1 h2]

/-- a CAS on the wrapped counter succeeds exactly when the `Nat` CAS does (expected and current value less than `2^32`
    apart — in the rings they are at most `N + #threads` apart), and the new value is the image of the successor -/
theorem c15_cas_eq (a b : Nat) (h1 : a ≤ b) (h2 : b < a + M32) :
    (wrap a = wrap b ↔ a = b) ∧ wadd (wrap a) 1 = wrap (a + 1) ∧ wadd (wrap b) 1 = wrap (b + 1) :=
  ⟨wrap_eq_iff_near a b (by omega) h2, wadd_wrap_one a, wadd_wrap_one b⟩

/-- the checked `*` and `+` of the lap re-guess never overflow (no panic), for any reloaded counter value -/
theorem c15_no_overflow (idx x g N : Nat) (hx : x < M32) (hidx : idx < N) (hN : M32 % N = 0) :
    cmul (x / N) N = some ((x / N) * N) ∧ cadd idx ((x / N) * N) = some (idx + (x / N) * N) ∧
    idx + (x / N) * N < M32 ∧ pubReguess32 idx g x N ≠ none ∧ canReguess32 idx g x N ≠ none := by
  have hlb := lap_bound hx hN
  refine ⟨cmul_lap hx (by omega) hN, cadd_lap hx hidx hN, by omega, ?_, ?_⟩
  · rw [pubReguess32_eq idx g x N hx hidx hN]; split <;> simp
  · rw [canReguess32_eq idx g x N _ rfl (wsub_lt x 1) hidx hN]; split <;> simp

/-- publish-by-index at any counter magnitude: with the caller's id in the admitted window `tail ≤ id < tail + N`, the call
    (initial guess = the index, at most one lap re-guess) publishes iff it is the caller's turn, then by a CAS on the image of
    its own id; otherwise it says "retry later"; it never panics -/
theorem c15_pub_guess_exact (tail id idx N : Nat) (h1 : tail ≤ id) (h2 : id < tail + N) (hidx : idx = id % N)
    (hN : M32 % N = 0) :
    (∀ g, pubIdx32 idx (wrap tail) N 3 idx = some (some g) → g = wrap id ∧ tail = id) ∧
    (tail = id → pubIdx32 idx (wrap tail) N 3 idx = some (some (wrap id))) ∧
    (tail ≠ id → pubIdx32 idx (wrap tail) N 3 idx = some none) ∧
    pubIdx32 idx (wrap tail) N 3 idx ≠ none := by
  have hi : idx < N := hidx ▸ Nat.mod_lt _ (by omega)
  rw [pubIdx32_eq idx (wrap tail) N (wrap_lt _) hi hN, hidx, guess2_wrap tail id N (by omega) h2 hN]
  by_cases he : tail = id <;> simp [he]

/-- cancel-by-index (repaired source: `wrapping_sub(1)`) at any counter magnitude: with `tail ≤ id < enqTail ≤ tail + N` (no
    over-claim outstanding, cf. `AllAdmitted` in C08) the call cancels iff the caller holds the newest claim
    (`enqTail = id + 1`), then by a CAS on the image of its own id; otherwise it returns `false`; it never panics -/
theorem c15_cancel_guess (tail id enqTail idx N : Nat) (h1 : tail ≤ id) (h2 : id < enqTail) (h3 : enqTail ≤ tail + N)
    (hidx : idx = id % N) (hN : M32 % N = 0) :
    (∀ g, canIdx32 canReguess32 idx (wrap enqTail) N 3 idx = some (some g) → g = wrap id ∧ enqTail = id + 1) ∧
    (enqTail = id + 1 → canIdx32 canReguess32 idx (wrap enqTail) N 3 idx = some (some (wrap id))) ∧
    (enqTail ≠ id + 1 → canIdx32 canReguess32 idx (wrap enqTail) N 3 idx = some none) ∧
    canIdx32 canReguess32 idx (wrap enqTail) N 3 idx ≠ none := by
  have hi : idx < N := hidx ▸ Nat.mod_lt _ (by omega)
  rw [canIdx32_eq idx (wrap enqTail) N (wrap (enqTail - 1)) (wrap_lt _) (wsub_wrap_one enqTail (by omega)) hi hN, hidx,
    guess2_wrap (enqTail - 1) id N (by omega) (by omega) hN]
  by_cases he : enqTail = id + 1
  · simp [he]
  · simp [he, show enqTail - 1 ≠ id by omega]

/-- finding D3: the pinned source takes the lap from the *checked* `reloaded_enqueuer_tail - 1`.  With `N = 4`, the
    caller holding id `2^32 - 1` (index 3) and `enqueuer_tail = 2^32` (machine value 0) the pinned call panics, the repaired
    one cancels by a CAS on `2^32 - 1` -/
theorem c15_cancel_wrap_counterexample :
    canIdx32 canReguessPinned32 3 (wrap M32) 4 3 3 = none ∧
    canIdx32 canReguess32 3 (wrap M32) 4 3 3 = some (some (wrap (M32 - 1))) ∧ wrap (M32 - 1) = 4294967295 := by
  decide

/-! ## non-vacuity: counters far beyond `2^32`, windows straddling the wrap point -/

example : admit32 (wrap (3 * M32 + 5)) (wrap (3 * M32 + 2)) 8 = true ∧ lenBefore32 (wrap (M32 + 1)) (wrap (M32 - 2)) = 3 := by
  decide
example : hasItem32 (wrap (2 * M32 + 1)) (wrap (2 * M32 - 1)) = true ∧ hasItem32 (wrap (2 * M32 - 1)) (wrap (2 * M32 + 1)) = false := by
  decide
example : pubIdx32 1 (wrap (5 * M32 + 9)) 8 3 1 = some (some (wrap (5 * M32 + 9))) ∧
    pubIdx32 2 (wrap (5 * M32 + 9)) 8 3 2 = some none := by decide
example : canIdx32 canReguess32 1 (wrap (5 * M32 + 10)) 8 3 1 = some (some (wrap (5 * M32 + 9))) ∧
    canIdx32 canReguess32 0 (wrap (5 * M32 + 10)) 8 3 0 = some none := by decide

#print axioms c15_admit
#print axioms c15_has_item
#print axioms c15_has_item_ring
#print axioms c15_index
#print axioms c15_len
#print axioms c15_fs_admit
#print axioms c15_cas_eq
#print axioms c15_no_overflow
#print axioms c15_pub_guess_exact
#print axioms c15_cancel_guess
#print axioms c15_cancel_wrap_counterexample

end Mutiny.U32
