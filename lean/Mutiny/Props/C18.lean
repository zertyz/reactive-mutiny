import Mutiny.Proofs.StackInv

/-!
# C18 (stacks) — the non-blocking stacks of `ogre_std::ogre_stacks` are linearizable bounded LIFOs

Model: `Mutiny/Model/Stack.lean`.  Atomic-flag stack: `pSwap`/`cSwap` (`flag.swap(true)`, spin while `true`),
`pCrit`/`cCrit` (the region), `pUnlock`/`cUnlock` (`flag.store(false)`); parking-lot stack: `plPush`/`plPop` (one step).
`hist` is the ghost linearized history (`(thread, inl v)` = successful push of `v`, `(thread, inr v)` = pop of `v`),
`replay n` runs it on the abstract stack bounded by `n`.  Every theorem holds for every bound `n` (also `0`), any
number of threads, any schedule.

`holder l` ⇔ `l` is one of `pCrit _`, `pUnlock _`, `cCrit`, `cUnlock _` (`holder_iff`);
`critical l` ⇔ `l` is one of `pCrit _`, `cCrit`, `plPush _`, `plPop` (the linearization points).
-/

namespace Mutiny.Stack

/-- Mutual exclusion and capacity: the flag is set exactly when some thread is inside the region, at most one
thread is, the bound is the construction-time constant and is never exceeded. -/
theorem c18_mutual_exclusion {n : Nat} {s : St} (h : Reachable n s) :
    (s.flag = true ↔ ∃ t, holder (s.thr t))
    ∧ (∀ t u, holder (s.thr t) → holder (s.thr u) → t = u)
    ∧ s.N = n ∧ s.items.length ≤ s.N :=
  have hi := reachable_inv h
  ⟨hi.flagIff, hi.mutex, hi.Neq, hi.cap⟩

/-- Linearizability.  In every reachable state the linearized history is a legal run of the abstract bounded LIFO
(no push beyond `n`, every pop returns the then-top element) and its outcome is the current content. -/
theorem c18_stack_linearizable {n : Nat} {s : St} (h : Reachable n s) :
    replay n s.hist = some s.items ∧ replay.go n [] s.hist = some s.items ∧ s.items.length ≤ n := by
  have hi := reachable_inv h
  exact ⟨by rw [replay_eq]; exact hi.lin, hi.lin, hi.Neq ▸ hi.cap⟩

/-- Linearizability of every prefix of the history: each intermediate abstract stack exists (the history is legal up to
any point) and respects the bound. -/
theorem c18_prefix_legal {n : Nat} {s : St} (h : Reachable n s) (k : Nat) :
    ∃ st, replay.go n [] (s.hist.take k) = some st ∧ st.length ≤ n
      ∧ replay.go n st (s.hist.drop k) = some s.items := by
  have hl := (reachable_inv h).lin
  rw [← List.take_append_drop k s.hist, replay.go_append] at hl
  obtain ⟨st, hp, hl⟩ := Option.bind_eq_some_iff.1 hl
  exact ⟨st, hp, replay.go_length_le hp (by simp), hl⟩

/-- Linearization point of `push` (`st.crit`).  The step answers `true` iff there is room at that instant, and then
appends `v` on top and the event `(t, inl v)`; it answers `false` iff the stack is exactly full at that instant, and
then changes nothing.  The flag and the other threads are untouched. -/
theorem c18_push_point {n : Nat} {s : St} (h : Reachable n s) {t v : Nat} (ht : s.thr t = .pCrit v) :
    (step s t).thr t = .pUnlock (decide (s.items.length < s.N))
    ∧ (s.items.length < s.N →
        (step s t).items = s.items ++ [v] ∧ (step s t).hist = s.hist ++ [(t, .inl v)])
    ∧ (¬ s.items.length < s.N →
        s.items.length = s.N ∧ (step s t).items = s.items ∧ (step s t).hist = s.hist)
    ∧ (step s t).flag = s.flag ∧ ∀ u, u ≠ t → (step s t).thr u = s.thr u :=
  push_point (l := .pUnlock) (reachable_inv h).cap (by simp only [step, ht])

/-- Linearization point of `pop` (`st.crit`).  The step answers `some v` iff `v` is the top at that instant
(`items = rest ++ [v]`), and then removes it and appends the event `(t, inr v)`; it answers `none` iff the stack is
empty at that instant, and then changes nothing. -/
theorem c18_pop_point {s : St} {t : Nat} (ht : s.thr t = .cCrit) :
    (step s t).thr t = .cUnlock s.items.getLast?
    ∧ (∀ rest v, s.items = rest ++ [v] →
        (step s t).thr t = .cUnlock (some v) ∧ (step s t).items = rest ∧ (step s t).hist = s.hist ++ [(t, .inr v)])
    ∧ (s.items = [] →
        (step s t).thr t = .cUnlock none ∧ (step s t).items = s.items ∧ (step s t).hist = s.hist)
    ∧ (∀ v, (step s t).thr t = .cUnlock (some v) → s.items = s.items.dropLast ++ [v])
    ∧ ((step s t).thr t = .cUnlock none → s.items = [])
    ∧ (step s t).flag = s.flag ∧ ∀ u, u ≠ t → (step s t).thr u = s.thr u := by
  obtain ⟨h0, h1, h2, h3⟩ := pop_point (l := .cUnlock) (t := t) (s := s) (by simp only [step, ht])
  refine ⟨h0, fun rest v e => ⟨by rw [h0, e]; simp, h1 rest v e⟩, fun e => ⟨by rw [h0, e]; rfl, h2 e⟩, fun v hv => ?_,
    fun hv => ?_, h3⟩
  · exact getLast?_eq_some_iff_snoc.1 (by simpa [h0] using hv)
  · simpa [h0] using hv

/-- The parking-lot stack: the whole `push` is its own linearization point, with the same exactness. -/
theorem c18_pl_push_point {n : Nat} {s : St} (h : Reachable n s) {t v : Nat} (ht : s.thr t = .plPush v) :
    (step s t).thr t = .done (.pushed (decide (s.items.length < s.N)))
    ∧ (s.items.length < s.N →
        (step s t).items = s.items ++ [v] ∧ (step s t).hist = s.hist ++ [(t, .inl v)])
    ∧ (¬ s.items.length < s.N →
        s.items.length = s.N ∧ (step s t).items = s.items ∧ (step s t).hist = s.hist)
    ∧ (step s t).flag = s.flag ∧ ∀ u, u ≠ t → (step s t).thr u = s.thr u :=
  push_point (l := fun ok => .done (.pushed ok)) (reachable_inv h).cap (by simp only [step, ht])

/-- The parking-lot stack: `pop`. -/
theorem c18_pl_pop_point {s : St} {t : Nat} (ht : s.thr t = .plPop) :
    (step s t).thr t = .done (.popped s.items.getLast?)
    ∧ (∀ rest v, s.items = rest ++ [v] →
        (step s t).items = rest ∧ (step s t).hist = s.hist ++ [(t, .inr v)])
    ∧ (s.items = [] → (step s t).items = s.items ∧ (step s t).hist = s.hist)
    ∧ (step s t).flag = s.flag ∧ ∀ u, u ≠ t → (step s t).thr u = s.thr u :=
  pop_point (l := fun r => .done (.popped r)) (by simp only [step, ht])

/-- The answer is the one fixed at the linearization point: the unlock step returns what was recorded inside the
region, releases the flag and touches neither content nor history. -/
theorem c18_unlock_carries_result {s : St} {t : Nat} :
    (∀ ok, s.thr t = .pUnlock ok →
        (step s t).thr t = .done (.pushed ok) ∧ (step s t).flag = false
        ∧ (step s t).items = s.items ∧ (step s t).hist = s.hist)
    ∧ (∀ r, s.thr t = .cUnlock r →
        (step s t).thr t = .done (.popped r) ∧ (step s t).flag = false
        ∧ (step s t).items = s.items ∧ (step s t).hist = s.hist) := by
  constructor
  · intro ok ht; simp [step, ht]
  · intro r ht; simp [step, ht]

/-- Only linearization points touch the stack.  An action that changes `items` or `hist` is a step of a thread `t`
at `pCrit` / `cCrit` / `plPush` / `plPop`, and it appends exactly one event, by `t`. -/
theorem c18_only_lin_points_change {s : St} {a : Act}
    (hch : (apply s a).items ≠ s.items ∨ (apply s a).hist ≠ s.hist) :
    ∃ t, a = .step t ∧ critical (s.thr t) ∧ ∃ e, (apply s a).hist = s.hist ++ [(t, e)] := by
  cases a with
  | step t =>
    rcases step_event s t with hs | hs
    · exact hch.elim (absurd hs.1) (absurd hs.2)
    · exact ⟨t, rfl, hs⟩
  | _ => simp only [apply] at hch; split at hch <;> simp at hch

/-- No loss, no duplication.  Successfully pushed values = popped values + current content, as multisets. -/
theorem c18_no_loss_no_dup {n : Nat} {s : St} (h : Reachable n s) :
    (∀ v, (pushes s.hist).count v = (pops s.hist).count v + s.items.count v)
    ∧ (pushes s.hist).Perm (pops s.hist ++ s.items) := by
  have hc : ∀ v, (pushes s.hist).count v = (pops s.hist).count v + s.items.count v := fun v => by
    simpa using replay.go_count (reachable_inv h).lin v
  exact ⟨hc, List.perm_iff_count.2 fun v => by rw [List.count_append]; exact hc v⟩

/-- Solo progress.  With all other threads idle, any pending operation of `t` — wherever it is — completes within
3 of its own steps (swap, region, unlock). -/
theorem c18_solo_progress {n : Nat} {s : St} (h : Reachable n s) {t : Nat}
    (ho : ∀ u, u ≠ t → s.thr u = .idle) (ht : s.thr t ≠ .idle) :
    ∃ k, k ≤ 3 ∧ ∃ r, (run s (List.replicate k (.step t))).thr t = .done r :=
  -- with the others idle, the flag can only be held by `t` itself
  have ⟨k, hk, r⟩ := finishes_togo ht
    ((reachable_inv h).excl.sole_of_others_out fun u hu => by simp [ho u hu, holder])
  ⟨k, Nat.le_trans hk (togo_le _), r⟩

/-- Sequential specification: in a quiescent state, `push t v` + 3 own steps returns `true` iff there is room, and
`pop t` + 3 own steps returns the top (if any); content and history are updated accordingly. -/
theorem c18_solo_call {n : Nat} {s : St} (h : Reachable n s) (hidle : ∀ u, s.thr u = .idle) (t v : Nat) :
    (let s' := run s [.push t v, .step t, .step t, .step t]
     s'.thr t = .done (.pushed (decide (s.items.length < s.N)))
     ∧ s'.items = (if s.items.length < s.N then s.items ++ [v] else s.items) ∧ s'.flag = false)
    ∧ (let s' := run s [.pop t, .step t, .step t, .step t]
       s'.thr t = .done (.popped s.items.getLast?) ∧ s'.items = s.items.dropLast ∧ s'.flag = false) := by
  have hf : s.flag = false :=
    (reachable_inv h).excl.free_of_solo (t := t) (fun u _ => by simp [hidle u, holder]) (by simp [hidle t, holder])
  constructor
  · by_cases hlt : s.items.length < s.N
    · simp [run, apply, step, pushCrit, hidle, hf, hlt, Nat.not_le.2 hlt]
    · simp [run, apply, step, pushCrit, hidle, hf, hlt, Nat.not_lt.1 hlt]
  · cases hl : s.items.getLast? with
    | none => simp [run, apply, step, popCrit, hidle, hf, List.getLast?_eq_none_iff.1 hl]
    | some x => simp [run, apply, step, popCrit, hidle, hf, hl]

/-- Spinning happens only while the flag is held: a `swap` step is a no-op exactly when the flag is set (and then
some *other* thread is inside the region). -/
theorem c18_spin_only_while_held {n : Nat} {s : St} (h : Reachable n s) {t : Nat}
    (ht : (∃ v, s.thr t = .pSwap v) ∨ s.thr t = .cSwap) :
    (step s t = s ↔ s.flag = true) ∧ (s.flag = true → ∃ u, u ≠ t ∧ holder (s.thr u)) := by
  -- `swap(true)` leaves the flag set, whatever it finds
  have hsw : (step s t).flag = true ∧ (s.flag = true → step s t = s) ∧ ¬ holder (s.thr t) := by
    rcases ht with ⟨v, ht⟩ | ht <;> cases hf : s.flag <;> simp [step, ht, hf, holder]
  refine ⟨⟨fun e => e ▸ hsw.1, hsw.2.1⟩, fun hf => ?_⟩
  obtain ⟨u, hu⟩ := (reachable_inv h).flagIff.1 hf
  exact ⟨u, fun e => hsw.2.2 (e ▸ hu), hu⟩

/-! ## non-vacuity -/

/-- A run filling a stack of capacity 1, then a failed push (nothing changes at its linearization point), then LIFO
pops; the history is legal and conservation holds. -/
example :
    let s := run (init 1) [.push 0 5, .step 0, .step 0, .step 0, .ack 0, .push 1 6, .step 1]
    let s' := run s [.step 1, .step 1]
    Reachable 1 s ∧ Reachable 1 s'
    ∧ s.thr 1 = .pCrit 6 ∧ s.items = [5] ∧ s.items.length = s.N          -- full at the linearization point
    ∧ s'.thr 1 = .done (.pushed false) ∧ s'.items = [5] ∧ s'.hist = [(0, .inl 5)] ∧ s'.flag = false
    ∧ replay 1 s'.hist = some [5] := by
  refine ⟨⟨_, rfl⟩, ⟨[.push 0 5, .step 0, .step 0, .step 0, .ack 0, .push 1 6, .step 1, .step 1, .step 1], rfl⟩, ?_⟩
  decide

/-- Thread 1 (a `pop`) spins while thread 0 holds the flag inside `push`; once released, it gets the value. -/
example :
    let s := run (init 2) [.push 0 5, .step 0, .pop 1]
    let s' := run s [.step 0, .step 0, .step 1, .step 1, .step 1]
    Reachable 2 s
    ∧ s.thr 0 = .pCrit 5 ∧ s.flag = true ∧ s.thr 1 = .cSwap
    ∧ (step s 1).thr 1 = .cSwap ∧ (step (step s 1) 1).thr 1 = .cSwap ∧ (step s 1).flag = true
    ∧ s'.thr 0 = .done (.pushed true) ∧ s'.thr 1 = .done (.popped (some 5)) ∧ s'.items = []
    ∧ s'.hist = [(0, .inl 5), (1, .inr 5)] ∧ replay 2 s'.hist = some [] := by
  refine ⟨⟨_, rfl⟩, ?_⟩
  decide

/-- LIFO order and the parking-lot operations on the same abstract stack. -/
example :
    let s := run (init 3) [.plPush 0 1, .step 0, .ack 0, .plPush 0 2, .step 0, .ack 0, .plPop 1, .step 1]
    Reachable 3 s ∧ s.thr 1 = .done (.popped (some 2)) ∧ s.items = [1]
    ∧ pushes s.hist = [1, 2] ∧ pops s.hist = [2] := by
  refine ⟨⟨_, rfl⟩, ?_⟩
  decide

#print axioms c18_mutual_exclusion
#print axioms c18_stack_linearizable
#print axioms c18_prefix_legal
#print axioms c18_push_point
#print axioms c18_pop_point
#print axioms c18_pl_push_point
#print axioms c18_pl_pop_point
#print axioms c18_unlock_carries_result
#print axioms c18_only_lin_points_change
#print axioms c18_no_loss_no_dup
#print axioms c18_solo_progress
#print axioms c18_solo_call
#print axioms c18_spin_only_while_held

end Mutiny.Stack
