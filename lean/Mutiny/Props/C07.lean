import Mutiny.Proofs.WakeCancelInv
import Mutiny.Proofs.WakeInv

/-!
# C07 — `cancel_stream(j)` terminates exactly the targeted stream

Model M8 (`Mutiny/Model/Wake.lean`).  Scope: ARBITRARY executions from `init n mx k rule zc` — every `N`, `MAX`, `k`,
wake rule, any number of producer threads, sends of every flavour including the asynchronous ones, cancels, drops,
spurious polls, any schedule of any length.  One assumption, `TokRun`: tokens are task identities, i.e. a spurious poll
with a new token never hands a stream the token another existing stream currently owns (the harness uses
`10 + 100·j + m`).  Without it the claim is false of the model (`c07_shared_token_counterexample`).

Proved: a cancelled stream is never stranded, delivers what is buffered and answers end-of-stream at its first empty
poll, and the cancel touches nothing of any other stream.
**Recorded finding** (`c07_uni_subset_counterexample`): for a Uni channel the untargeted streams do NOT keep being
served — the wake rule chooses its target by queue length, so after stream 0 alone was cancelled the next event on an
empty queue wakes the dead stream 0 and the live stream 1 sleeps on a non-empty queue.
-/

namespace Mutiny.Wake

/-- the invariant itself: a cancelled stream is, at every moment, in a phase that ends (`ready`/`sPoll`/`sFlag`: the
    next `sFlag` reads `false`; `ended`, dropping), or parked notified, or at the waker comparison notified or about to
    store-and-self-wake, or locking/storing/self-waking — or a producer is inside `wake_stream(j)` -/
theorem c07_cancel_invariant (n mx k : Nat) (rule : Rule) (zc : Bool) (as : List Act)
    (htok : TokRun (init n mx k rule zc) as) :
    let s := run (init n mx k rule zc) as
    ∀ j, j < k → s.keep j = false →
      (s.sloc j = .parked → s.notified (s.tok j) = true ∨
          ∃ t r, s.thr t = .wWake j r ∨ s.thr t = .wLock j r ∨ s.thr t = .wSpin j r ∨ s.thr t = .wRetry j r) ∧
      (s.sloc j = .sCmp → s.notified (s.tok j) = true ∨ s.waker j ≠ some (s.tok j) ∨
          ∃ t r, s.thr t = .wWake j r ∨ s.thr t = .wLock j r ∨ s.thr t = .wSpin j r ∨ s.thr t = .wRetry j r) ∧
      (s.sloc j = .parked ∨ s.sloc j = .sSelfWake → s.waker j = some (s.tok j)) := by
  intro s j hj hk
  obtain ⟨hi, hkk⟩ := reachable_cinv htok
  have wk : (∃ t, inWake (s.thr t) j) → ∃ t r, _ := fun ⟨t, h⟩ => ⟨t, inWake_iff.1 h⟩
  have h7 : safe s j ∨ _ := hi.c7 j (hkk.symm ▸ hj) hk
  refine ⟨fun h1 => ?_, fun h1 => ?_, hi.w2 j⟩
  · simp only [safe, h1] at h7; exact h7.imp_right wk
  · simp only [safe, h1] at h7
    rcases h7 with h | h
    · exact h.imp_right .inl
    · exact .inr (.inr (wk h))

/-- **C07 (termination).**  Once `keep_streams_running[j]` is false and no producer is inside the cancel / a
    `wake_stream` of `j`, stream `j` is not stranded: it is not (parked and un-notified).  The wake may come from the
    cancel itself or from any send that targets `j`; a spurious poll after the cancel clears the notification but then
    the task is in the middle of a poll that ends at `sFlag`. -/
theorem c07_cancel_terminates (n mx k : Nat) (rule : Rule) (zc : Bool) (as : List Act)
    (htok : TokRun (init n mx k rule zc) as) :
    let s := run (init n mx k rule zc) as
    ∀ j, j < k → s.keep j = false →
      (∀ t, s.thr t ≠ .cCancel j ∧
        ∀ r, s.thr t ≠ .wWake j r ∧ s.thr t ≠ .wLock j r ∧ s.thr t ≠ .wSpin j r ∧ s.thr t ≠ .wRetry j r) →
      ¬ (s.sloc j = .parked ∧ s.notified (s.tok j) = false) := by
  intro s j hj hk hp ⟨h1, h2⟩
  rcases (c07_cancel_invariant n mx k rule zc as htok j hj hk).1 h1 with h | ⟨t, r, h⟩
  · rw [h2] at h; cases h
  · obtain ⟨a, b, c, d⟩ := (hp t).2 r
    rcases h with h | h | h | h <;> contradiction

/-- **C07 (what a cancelled stream still yields).**  `sm.flag` with the flag cleared answers end-of-stream; `ms.poll`
    on the empty queue goes to `sm.flag` delivering nothing; `ms.poll` on `v :: rest` delivers exactly `v`, the first
    buffered event; no other stream micro-step delivers anything or touches the queue. -/
theorem c07_ends_on_first_empty (s : St) (j : Nat) :
    (s.sloc j = .sFlag → s.keep j = false → (stepS s j).sloc j = .ended) ∧
    (s.sloc j = .sPoll → s.q = [] →
        (stepS s j).sloc j = .sFlag ∧ (stepS s j).delivered = s.delivered ∧ (stepS s j).q = []) ∧
    (∀ v rest, s.sloc j = .sPoll → s.q = v :: rest →
        (stepS s j).sloc j = .ready ∧ (stepS s j).q = rest ∧ (stepS s j).delivered = s.delivered ++ [(j, v)]) ∧
    (s.sloc j ≠ .sPoll → (stepS s j).delivered = s.delivered ∧ (stepS s j).q = s.q) ∧
    (s.sloc j = .ended → stepS s j = s ∧ ∀ nt, apply s (.poll j nt) = s) := by
  refine ⟨fun h1 h2 => ?_, fun h1 h2 => ?_, fun v rest h1 h2 => ?_, fun h1 => ?_, fun h1 => ?_⟩
  · simp [stepS, h1, h2, setS]
  · simp [stepS, h1, h2, setS]
  · simp [stepS, h1, h2, setS]
  · exact (stepS_queue s j).elim (fun h => ⟨h.2, h.1⟩) fun ⟨_, h, _⟩ => absurd h h1
  · refine ⟨by simp [stepS, h1], fun nt => ?_⟩
    simp only [apply, h1]; split <;> rfl

/-- a cancelled stream at rest that is polled on the empty queue answers end-of-stream within that poll -/
theorem c07_cancelled_poll_ends (s : St) (j : Nat) (nt : Option Nat) (hj : j < s.k) (hk : s.keep j = false)
    (hq : s.q = []) (hl : s.sloc j = .ready ∨ s.sloc j = .parked) :
    (run s [.poll j nt, .stepS j, .stepS j]).sloc j = .ended := by
  rcases hl with hl | hl <;> simp [run, apply, hj, hl, stepS, setS, hq, hk]

/-- **C07 (frame).**  A cancel / wake micro-step for stream `j` changes no stream's program point, token or registered
    waker, not the queue, no other stream's flag, and notifies at most the token registered for `j`. -/
theorem c07_untargeted_keep_flag (s : St) (t j : Nat)
    (h : s.thr t = .cCancel j ∨
      ∃ r, s.thr t = .wWake j r ∨ s.thr t = .wLock j r ∨ s.thr t = .wSpin j r ∨ s.thr t = .wRetry j r) :
    (stepP s t).q = s.q ∧ (stepP s t).sloc = s.sloc ∧ (stepP s t).tok = s.tok ∧ (stepP s t).waker = s.waker ∧
    (∀ i, i ≠ j → (stepP s t).keep i = s.keep i) ∧
    (∀ tk, (stepP s t).notified tk = true → s.notified tk = true ∨ s.waker j = some tk) ∧
    (∀ tk, s.notified tk = true → (stepP s t).notified tk = true) := by
  have f := stepP_frame s t
  -- `t` is at no other stream's cancel or wake-up, and not at a publication
  have ⟨hj, hp⟩ : (∀ i, inWake (s.thr t) i ∨ s.thr t = .cCancel i → i = j) ∧ ∀ v sl r, s.thr t ≠ .pClm v sl r := by
    rcases h with h | ⟨r, h | h | h | h⟩ <;> simp [h, inWake, eq_comm]
  exact ⟨(stepP_queue s t).elim (·.1) fun ⟨v, sl, r, e, _⟩ => absurd e (hp v sl r), f.sloc, f.tok, f.waker,
    fun i hi => (stepP_keep s t i).resolve_right fun e => hi (hj i (.inr e.1)),
    fun tk hn => (stepP_notified hn).imp_right fun ⟨i, hi, e⟩ => hj i (.inl hi) ▸ e, fun _ => stepP_notified_mono t⟩

/-- the `cancel` call itself only moves the calling producer -/
theorem c07_cancel_call_frame (s : St) (t j : Nat) :
    let s' := apply s (.cancel t j)
    s'.q = s.q ∧ s'.sloc = s.sloc ∧ s'.tok = s.tok ∧ s'.waker = s.waker ∧ s'.keep = s.keep ∧
      s'.notified = s.notified ∧ ∀ u, u ≠ t → s'.thr u = s.thr u := by
  simp only [apply]; split <;> simp [setThr] <;> grind

/-- `keep_streams_running[j]` is only ever cleared, never set again -/
theorem c07_keep_monotone (s : St) (as : List Act) (j : Nat) (h : s.keep j = false) : (run s as).keep j = false :=
  Bool.eq_false_iff.2 fun hk => Bool.eq_false_iff.1 h ((run_frame s as).keep j hk)

/-! ## non-vacuity -/

/-- a `TokRun` with a cancel, sends, an asynchronous send and a spurious poll with a fresh token, ending in a state in
    which the hypotheses of `c07_cancel_terminates` hold for stream 0 (parked, notified) -/
example :
    let as := parkActs 0 ++ parkActs 1 ++ [.poll 1 (some 110), .asyncMov 2 5, .cancel 0 0, .stepP 0, .stepP 0]
    let s := run (init 8 2 2 .fs false) as
    s.keep 0 = false ∧ s.sloc 0 = .parked ∧ s.notified (s.tok 0) = true ∧ s.thr 0 = .done .unit ∧
      s.thr 2 = .aSusp 5 0 ∧ s.tok 1 = 110 := by
  decide

example : TokRun (init 8 2 2 .fs false)
    (parkActs 0 ++ parkActs 1 ++ [.poll 1 (some 110), .asyncMov 2 5, .cancel 0 0, .stepP 0, .stepP 0]) := by
  simp only [parkActs, List.cons_append, List.nil_append, TokRun, tokFresh, and_true, true_and]
  decide

/-- executions that never change tokens are `TokRun`s -/
example (s : St) (as : List Act) (h : ∀ a ∈ as, noNewTok a) : TokRun s as := tokRun_of_noNewTok s as h

/-- `c07_ends_on_first_empty` / `c07_cancelled_poll_ends`: the cancelled stream 0 of the run above is polled and ends -/
example :
    let as := parkActs 0 ++ [.send 1 7, .stepP 1, .cancel 0 0, .stepP 0, .stepP 0,
      .poll 0 none, .stepS 0, .poll 0 none, .stepS 0, .stepS 0]
    let s := run (init 8 2 1 .fs false) as
    s.sloc 0 = .ended ∧ s.delivered = [(0, 7)] ∧ s.q = [] := by
  decide

/-- `c07_untargeted_keep_flag`: its hypothesis is reachable -/
example : (run (init 8 2 2 .fs false) [.cancel 0 1]).thr 0 = .cCancel 1 := by decide

/-! ## recorded findings -/

/-- both streams park; stream 0 is cancelled, polled, ends; then an event is sent on the empty queue -/
def uniSubsetWitness : List Act :=
  parkActs 0 ++ parkActs 1 ++
    [.cancel 0 0, .stepP 0, .stepP 0, .poll 0 none, .stepS 0, .stepS 0, .send 1 10, .stepP 1]

/-- **finding (Uni channel, cancelling a subset of the streams).**  `k = 2`, `MAX = 2`, rule `fs`: after stream 0 alone
    was cancelled and has ended, `send` on the empty queue observes length 1 and wakes stream 0 — the dead one.  The
    event stays queued, every producer is done, the live stream 1 is parked un-notified: `stuck`.  (No `asyncMov`, no
    `dropS`, every poll is a fair one, tokens never change.) -/
theorem c07_uni_subset_counterexample :
    stuck (run (init 8 2 2 .fs false) uniSubsetWitness) ∧ (∀ a ∈ uniSubsetWitness, noNewTok a) :=
  ⟨stuck_run_of_check 8 2 2 .fs false uniSubsetWitness 2 (by decide) (by decide), by decide⟩

/-- the concrete facts of that state -/
theorem c07_uni_subset_counterexample_state :
    let s := run (init 8 2 2 .fs false) uniSubsetWitness
    s.q = [10] ∧ s.keep 0 = false ∧ s.sloc 0 = .ended ∧ s.keep 1 = true ∧ s.sloc 1 = .parked ∧
      s.notified (s.tok 1) = false ∧ s.thr 0 = .done .unit ∧ s.thr 1 = .done .ok ∧ s.wakeLog = [0, 1, 0, 0] := by
  decide

/-- both streams park; stream 0 is cancelled and woken; then stream 1 is polled spuriously *with stream 0's token* -/
def sharedTokenWitness : List Act :=
  parkActs 0 ++ parkActs 1 ++ [.cancel 0 0, .stepP 0, .stepP 0, .poll 1 (some 0)]

/-- **model remark (why `TokRun`).**  If a spurious poll may hand stream 1 the token stream 0 owns, the executor's
    clearing of that token's notification swallows the wake of `cancel_stream(0)`: stream 0 is cancelled, parked,
    un-notified, and no producer is inside its wake.  (Two streams driven by ONE task would behave like this in the
    real code as well; the model — and the documented use — has one task per stream.) -/
theorem c07_shared_token_counterexample :
    let s := run (init 8 2 2 .fs false) sharedTokenWitness
    s.keep 0 = false ∧ s.sloc 0 = .parked ∧ s.notified (s.tok 0) = false ∧
      s.thr 0 = .done .unit ∧ (∀ t, t ≠ 0 → s.thr t = .idle) ∧ ¬ TokRun (init 8 2 2 .fs false) sharedTokenWitness := by
  refine ⟨by decide, by decide, by decide, by decide, fun t ht => ?_, ?_⟩
  · refine (run_frame _ _).thr t fun a ha e => ?_
    have : ∀ a ∈ sharedTokenWitness, a.thread = none ∨ a.thread = some 0 := by decide
    rcases this a ha with h | h <;> rw [h] at e <;> simp at e
    exact ht e.symm
  · simp only [sharedTokenWitness, parkActs, List.cons_append, List.nil_append, TokRun, tokFresh, and_true, true_and]
    decide

end Mutiny.Wake

#print axioms Mutiny.Wake.c07_cancel_terminates
#print axioms Mutiny.Wake.c07_cancel_invariant
#print axioms Mutiny.Wake.c07_ends_on_first_empty
#print axioms Mutiny.Wake.c07_cancelled_poll_ends
#print axioms Mutiny.Wake.c07_untargeted_keep_flag
#print axioms Mutiny.Wake.c07_cancel_call_frame
#print axioms Mutiny.Wake.c07_keep_monotone
#print axioms Mutiny.Wake.c07_uni_subset_counterexample
#print axioms Mutiny.Wake.c07_uni_subset_counterexample_state
#print axioms Mutiny.Wake.c07_shared_token_counterexample
