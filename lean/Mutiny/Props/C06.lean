import Mutiny.Proofs.ExecProps

/-!
# C06 — graceful close: when `close()` returns (successfully), every event accepted before the call was fully processed

Model: the event machine `stepEv` / `runEv` of `Mutiny/Model/Exec.lean` (one executor and its channel; `Uni::close`
→ `gracefully_end_all_streams` → `StreamsManager::end_all_streams`: flush, `cancel_all_streams`, wait until
`running_streams_count() == 0`).  `closeReturned` is the *successful* return of `close` (stream dropped); a close that
gives up on its timeout is outside the machine.
Scope: every configuration `c`, every accepted log `es` (`runEv c {} es = some s`) of any length, any interleaving of
sends, processing steps and the close.

FULL PROPERTY (intent): for every `c` and every reachable `s`: `closeOk s = true`, i.e. if `s.closed` then every `i` in
`s.beforeClose` is in `s.finished`.
WHAT HOLDS: the full property for `c.limit ≤ 1 ∨ c.futures = false` (`c06_close_sequential` = `c06_partial`).
WHAT IS MISSING: `c.futures = true ∧ c.limit > 1`.  There the property is FALSE of the model and of the real code
(recorded finding D6, `c06_concurrent_counterexample`): `for_each_concurrent` drops the source stream as soon as it
ends, `running_streams_count` goes to 0 and `close` returns while item futures are still in flight.  What still holds in
that case (`c06_close_concurrent_weak`): when close returned, every event accepted before the call was *yielded* (is in
flight or finished), and all of them are finished when the executor's close callback runs (`C12`).

CAVEAT `limit = 0`: the hypothesis `c.limit ≤ 1` includes `limit = 0`, for which the theorem is true *of the model*
(`settle` / `stepEv` treat 0 like 1), but the real code then calls `for_each_concurrent(0, ..)`, which in `futures 0.3`
means NO limit, i.e. behaves like `limit > 1` (D6 applies).  The harness only runs `limit ≥ 1`; read the theorem as
`limit = 1 ∨ ¬futures`.

The ghost fields are tied to the log by `c06_ghost_fields`; `c06_close_sequential_log` restates the property on the log alone.
No hypothesis on the ids is needed except for `c06_close_sequential_nodup` (distinct ids, as the harness uses).
-/

namespace Mutiny.Exec

/-- with `for_each` (limit ≤ 1) or with items that are not futures: in every reachable state `closeOk` holds, and when
    close returned, everything accepted before the call is finished, nothing is in flight, the stream was cancelled and
    dropped.
    (`s.pending = []` is NOT claimed: it is false, see `c06_pending_after_close_counterexample` — a send accepted after the
    close call stays pending for ever; `c06_close_sequential_nodup` says what holds of `pending`.) -/
theorem c06_close_sequential (c : Cfg) (hc : c.limit ≤ 1 ∨ c.futures = false) (es : List Ev) (s : St)
    (h : runEv c {} es = some s) :
    closeOk s = true ∧
    (s.closed = true → (∀ i ∈ s.beforeClose, i ∈ s.finished) ∧ s.inflight = [] ∧ s.dropped = true ∧
      s.cancelled = true ∧ s.closing = true) := by
  have hi := inv_run h
  exact ⟨(closeOk_iff s).2 (fun hcl => (inv_close_sequential hi hc hcl).1), inv_close_sequential hi hc⟩

/-- see the header: the full property (all `c`) is false for `futures = true ∧ limit > 1` -/
theorem c06_partial (c : Cfg) (hc : c.limit ≤ 1 ∨ c.futures = false) (es : List Ev) (s : St)
    (h : runEv c {} es = some s) : closeOk s = true :=
  (c06_close_sequential c hc es s h).1

/-- with distinct accepted ids (the harness uses distinct ids): when close returned, no event accepted before the call
    is still pending or in flight — the only things left pending were accepted after the close call -/
theorem c06_close_sequential_nodup (c : Cfg) (hc : c.limit ≤ 1 ∨ c.futures = false) (es : List Ev) (s : St)
    (h : runEv c {} es = some s) (hnd : (acceptedIds es).Nodup) (hcl : s.closed = true) :
    ∀ i ∈ s.beforeClose, i ∈ s.finished ∧ i ∉ s.pending ∧ i ∉ s.inflight := by
  intro i hi
  have hfin := (inv_close_sequential (inv_run h) hc hcl).1 i hi
  have hp : (held s).Perm (acceptedIds es) := by simpa [held] using perm_run h
  have hnd' : (s.pending ++ s.inflight ++ s.finished).Nodup := hp.nodup_iff.2 hnd
  rw [List.nodup_append] at hnd'
  have hdis := hnd'.2.2
  refine ⟨hfin, fun hpe => ?_, fun hin => ?_⟩
  · exact hdis i (List.mem_append_left _ hpe) i hfin rfl
  · exact hdis i (List.mem_append_right _ hin) i hfin rfl

/-- RECORDED FINDING D6.  `futures = true`, `limit = 2`: event 1 is accepted and yielded (its item future is running),
    `close` is called and returns: the log is accepted by the machine (and produced by the real code), and `closeOk`
    is false — close returned while the item future of event 1 was still running. -/
theorem c06_concurrent_counterexample :
    accepts { futures := true, limit := 2 } [.accepted 1, .yielded 1, .closeCalled, .closeReturned] = true ∧
    (runEv { futures := true, limit := 2 } {} [.accepted 1, .yielded 1, .closeCalled, .closeReturned]).map closeOk
      = some false ∧
    (runEv { futures := true, limit := 2 } {} [.accepted 1, .yielded 1, .closeCalled, .closeReturned]).map (·.inflight)
      = some [1] := by decide

/-- what remains true for every configuration (in particular `futures ∧ limit > 1`): when close returned, every event
    accepted before the call has at least been yielded to the pipeline (in flight or finished) -/
theorem c06_close_concurrent_weak (c : Cfg) (es : List Ev) (s : St) (h : runEv c {} es = some s)
    (hcl : s.closed = true) :
    s.dropped = true ∧ s.cancelled = true ∧ ∀ i ∈ s.beforeClose, i ∈ s.inflight ∨ i ∈ s.finished := by
  have hi := inv_run h
  have hd := (hi.clos hcl).1
  exact ⟨hd, (hi.drop hd).1, (hi.canc (hi.drop hd).1).2⟩

/-- no accepted event is ever discarded (nor duplicated): in every reachable state `pending ++ inflight ++ finished`
    is a permutation of the ids accepted so far; in particular every accepted id is in one of the three, for ever
    (no distinctness of ids needed) -/
theorem c06_never_discarded (c : Cfg) (es : List Ev) (s : St) (h : runEv c {} es = some s) :
    (s.pending ++ s.inflight ++ s.finished).Perm (acceptedIds es) ∧
    ∀ i, .accepted i ∈ es → i ∈ s.pending ∨ i ∈ s.inflight ∨ i ∈ s.finished := by
  have hp : (s.pending ++ s.inflight ++ s.finished).Perm (acceptedIds es) := by simpa [held] using perm_run h
  exact ⟨hp, fun i hi => by simpa [List.mem_append, or_assoc] using hp.mem_iff.2 (mem_acceptedIds.2 hi)⟩

/-- the ghost fields of the final state are functions of the log alone: `finished` = the ids of the `finished` events
    (and of the `yielded` events when items are not futures), in order; `beforeClose` = the ids accepted before the
    first `closeCalled` / `cancelAll` / `closeExpired`; "a close was called or an end signal given" = the log contains one of
    these -/
theorem c06_ghost_fields (c : Cfg) (es : List Ev) (s : St) (h : runEv c {} es = some s) :
    s.finished = processedIds c es ∧ s.beforeClose = acceptedBeforeClose es ∧
    (s.closing || s.signalled) = es.any isSignal := by
  obtain ⟨h1, h2, h3, -⟩ := ghost_run h
  exact ⟨by simpa using h1, by simpa using h2, by simpa using h3⟩

/-- C06 on the log alone: in an accepted log (limit ≤ 1 or no item futures), every event accepted before `closeCalled`
    has its processing completed *before* `closeReturned` -/
theorem c06_close_sequential_log (c : Cfg) (hc : c.limit ≤ 1 ∨ c.futures = false) (es₁ es₂ : List Ev)
    (h : accepts c (es₁ ++ .closeReturned :: es₂) = true) :
    ∀ i ∈ acceptedBeforeClose es₁, i ∈ processedIds c es₁ := by
  simp only [accepts, Option.isSome_iff_exists] at h
  obtain ⟨s, hs⟩ := h
  obtain ⟨s1, h1, h2⟩ := runEv_append (a := es₁ ++ [.closeReturned]) (b := es₂) (by simpa using hs)
  obtain ⟨s0, h3, h4⟩ := runEv_append h1
  obtain ⟨g1, g2, -⟩ := c06_ghost_fields c es₁ s0 h3
  have hcl : s1.closed = true ∧ s1.finished = s0.finished ∧ s1.beforeClose = s0.beforeClose := by
    obtain ⟨s2, h5, h6⟩ := runEv_cons h4
    cases h6
    cases Step.of_stepEv h5
    exact ⟨rfl, rfl, rfl⟩
  have := (c06_close_sequential c hc _ s1 h1).2 hcl.1
  rw [← g1, ← g2, ← hcl.2.1, ← hcl.2.2]
  exact this.1

/-! ### non-vacuity / sanity -/

-- a sequential run with a close that returns: accepted, and everything accepted before the close is finished
example : (runEv { futures := true, limit := 1 } {}
    [.accepted 1, .accepted 2, .yielded 1, .closeCalled, .accepted 3, .finished 1, .yielded 2, .finished 2,
     .yielded 3, .finished 3, .closeReturned]).map (fun s => (s.closed, s.beforeClose, s.finished))
    = some (true, [1, 2], [1, 2, 3]) := by decide
-- with limit 1 close cannot return while the item future is running
example : accepts { futures := true, limit := 1 } [.accepted 1, .yielded 1, .closeCalled, .closeReturned] = false := by
  decide
-- non-future items, limit 2: accepted and closed
example : (runEv { futures := false, limit := 2 } {} [.accepted 1, .closeCalled, .yielded 1, .closeReturned]).map
    (fun s => (s.closed, closeOk s)) = some (true, true) := by decide
/-- `pending = []` does not hold when close returned: a send accepted after the close call (the stream is already
    cancelled and dropped) stays pending and is never processed -/
theorem c06_pending_after_close_counterexample :
    (runEv { futures := true, limit := 1 } {} [.closeCalled, .accepted 1, .closeReturned]).map
      (fun s => (s.closed, s.pending, s.beforeClose)) = some (true, [1], []) := by decide
-- hypothesis of `c06_close_sequential_nodup` is satisfiable
example : (acceptedIds [.accepted 1, .accepted 2, .yielded 1, .closeCalled, .accepted 3]).Nodup := by decide
-- `c06_close_sequential_log` is not vacuous
example : accepts { futures := true, limit := 1 }
    ([.accepted 1, .yielded 1, .closeCalled, .finished 1] ++ .closeReturned :: [.callback]) = true := by decide

/-! ### the end signal given before the graceful close: `cancel_all_streams()`, a bounded close that expired, several closes -/

-- after `cancel_all_streams()` with an item in flight, an unbounded close may NOT return before that item finished;
example : accepts { futures := true, limit := 1 }
    [.accepted 1, .accepted 2, .yielded 1, .cancelAll, .closeCalled, .closeReturned] = false := by decide
-- it returns after the buffered events were yielded and finished
example : (runEv { futures := true, limit := 1 } {}
    [.accepted 1, .accepted 2, .yielded 1, .cancelAll, .closeCalled, .finished 1, .yielded 2, .finished 2, .closeReturned]).map
    (fun s => (s.closed, closeOk s, s.beforeClose, s.finished)) = some (true, true, [1, 2], [1, 2]) := by decide
-- a bounded close that expired (it has cancelled the streams by then) followed by an unbounded one: same
example : accepts { futures := true, limit := 1 }
    [.accepted 1, .yielded 1, .closeCalled, .closeExpired, .closeCalled, .closeReturned] = false := by decide
example : accepts { futures := true, limit := 1 }
    [.accepted 1, .yielded 1, .closeCalled, .closeExpired, .closeCalled, .finished 1, .closeReturned, .callback] = true := by decide
-- two closes outstanding: both return only when everything is processed
example : accepts { futures := true, limit := 1 }
    [.accepted 1, .yielded 1, .closeCalled, .closeCalled, .finished 1, .closeReturned, .closeReturned] = true := by decide
example : accepts { futures := true, limit := 1 }
    [.accepted 1, .yielded 1, .closeCalled, .closeCalled, .closeReturned] = false := by decide
-- a close cannot return more often than it was called
example : accepts { futures := true, limit := 1 } [.closeCalled, .closeReturned, .closeReturned] = false := by decide

#print axioms c06_close_sequential
#print axioms c06_partial
#print axioms c06_close_sequential_nodup
#print axioms c06_concurrent_counterexample
#print axioms c06_close_concurrent_weak
#print axioms c06_never_discarded
#print axioms c06_ghost_fields
#print axioms c06_close_sequential_log
#print axioms c06_pending_after_close_counterexample

end Mutiny.Exec
