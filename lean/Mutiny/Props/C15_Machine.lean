import Mutiny.Proofs.RingProps
import Mutiny.Proofs.Ring32Sim
import Mutiny.Proofs.LockRing32Sim

/-!
# C15, machine level — the `u32` ring `Ring32` is the image modulo 2^32 of the free-running ring `Ring` (M1)

`Mutiny/Model/Ring32.lean` executes the arithmetic the source really performs (wrapping `fetch_add`, `overflowing_sub`,
`as i32 > 0`, `% BUFFER_SIZE`, the checked `+` / `*` of a build with overflow checks) on residues `< 2^32`; it is the machine
the replay driver runs the recorded traces of the real `AtomicMove` on, from any sequence origin.  The theorems below say
that this machine never leaves the image `x ↦ x % 2^32` of model M1 — for counters of ANY magnitude, hence also after they
wrapped any number of times — so every theorem about M1 (C01, C02, C08, C13, C16, C18, C20) is a theorem about the `u32`
code, and a history answers exactly as it would on a fresh ring: same accept / reject results, same values, order and
reported lengths, no panic.

Scope: every program point except the re-guess loop of the two index-based calls (`try_publish_leaked_internal_index`,
`try_unleak_slot_index_internal`), whose *number of retries* legitimately depends on the lap the counters are in (their
results do not: `c15_pub_guess_exact`, `c15_cancel_guess` in `Props/C15.lean`, `c15_pub32_exact` below).
Window hypotheses (`Win`): `N ∣ 2^32`, `N < 2^31`, fewer than `2^31` claims outstanding — derived from a bound on the number of
threads by `c15_window_of_threads` — and no exact multiple of 2^32 events between the two loads of the emptiness re-check
(`noABA`: the only place where the code compares two counters loaded at different instants), fewer than 2^31 events consumed past
a producer's own between its publication and its length measurement (`noLag`: the signed cast of `len_after_publishing`).
-/

namespace Mutiny.Ring32
open Mutiny.Ring Mutiny.U32

/-- one step of the `u32` machine from the image of any reachable M1 state is the image of M1's step; no panic -/
theorem c15_step_refines (s : St) (t : Nat) (h : Inv s) (w : Win s) (hni : NotIdx (s.thr t)) :
    step32 (img s) t = some (img (step s t)) :=
  sim_step s t h w hni

/-- refinement: every run of the `u32` machine from a fresh ring is, action for action, the image of the run of M1, for
    runs of any length (counters of any magnitude), any number of threads and any schedule; it never panics -/
theorem c15_refinement (n : Nat) (hn : 0 < n) (as : List Act) (hok : RunOk (Ring.init n) as)
    (hw : WinRun (Ring.init n) as) (ha : ActsOk as) :
    run32 (img (Ring.init n)) as = some (img (Ring.run (Ring.init n) as)) :=
  sim_run (Ring.init n) as (inv_init n hn) (fun _ => ⟨nofun, nofun⟩) hok hw ha

/-- … and the same from the image of ANY state satisfying the invariant (e.g. one reached after 2^40 events) -/
theorem c15_refinement_from (s : St) (as : List Act) (h : Inv s) (hn : NoIdx s) (hok : RunOk s as) (hw : WinRun s as)
    (ha : ActsOk as) : run32 (img s) as = some (img (Ring.run s as)) :=
  sim_run s as h hn hok hw ha

/-- what a caller observes is literally the same: a finished operation's result (accepted / full / value / empty /
    length / reserved index) is untouched by the image -/
theorem c15_same_results (s : St) (t : Nat) (r : Res) : (img s).thr t = .done r ↔ s.thr t = .done r := by
  simp only [img_thr]
  cases s.thr t <;> simp [imgLoc]

/-- the payloads are the same: buffer, acceptance log and delivered values are untouched by the image -/
theorem c15_same_payloads (s : St) :
    (img s).buf = s.buf ∧ (img s).accepted = s.accepted ∧ (img s).delivered.map (·.2.2) = s.delivered.map (·.2.2) := by
  refine ⟨rfl, rfl, ?_⟩
  simp [img, List.map_map, Function.comp_def]

/-- the window hypotheses follow from the ring invariant for any execution that uses at most `T` threads with
    `N + T < 2^31` (each thread holds at most one claim) -/
theorem c15_window_of_threads (s : St) (h : Inv s) (T : Nat) (hT : ∀ t, T ≤ t → s.thr t = .idle)
    (hN : M32 % s.N = 0) (hb : s.N + T < 2147483648)
    (hABA : ∀ t hh w, s.thr t = .cChkTail hh w → s.tail < hh + M32)
    (hLag : ∀ t id, s.thr t = .pLen id → s.head ≤ id + 1 + 2147483648) : Win s := by
  obtain ⟨h1, h2⟩ := claims_le_threads s h T hT
  have := h.hTN
  exact { hN, hNs := by omega, hE := by omega, hD := by omega, noABA := hABA, noLag := hLag }

/-- index-based publication at any counter magnitude: whatever lap the `u32` guess comes from, a successful CAS of the
    `u32` machine (`tail32 = guess32`, with the guess congruent to the slot index) publishes the caller's OWN sequence number:
    the free-running `tail` equals the caller's id -/
theorem c15_pub32_exact (s : St) (t id idx g g32 : Nat) (h : Inv s) (w : Win s) (hl : s.thr t = .rPub id idx g)
    (hg : g32 % s.N = idx) (hcas : wrap s.tail = g32) : s.tail = id :=
  h.turn_of_slot (t := t) (by rw [hl]; rfl)
    (by rw [← mod_wrap s.tail s.N w.hN, hcas, hg, (h.idxOk t id idx g (.inl hl)).1])

/-! ## non-vacuity -/

/-- the hypotheses are satisfiable: a fresh ring of size 4 is in the window, and so is every state a 3-thread execution
    reaches (by `c15_window_of_threads`) -/
example : Win (Ring.init 4) :=
  ⟨by decide, by decide, by decide, by decide, fun _ _ _ h => by simp [Ring.init] at h, fun _ _ h => by simp [Ring.init] at h⟩

/-- a concrete run checked against the machine: three sends and two receives on a ring whose counters start 2 below the
    wrap (`init32 4 (2^32 - 4)` is the image of a ring that transported 2^32 - 4 events): accepted, accepted, accepted,
    delivered in order, counters wrapped to 0 and beyond, no panic -/
example :
    (run32 (init32 4 4294967292)
      [.send 0 11, .step 0, .step 0, .step 0, .step 0, .step 0, .ack 0, .send 0 22, .step 0, .step 0, .step 0, .step 0, .step 0, .ack 0,
       .send 0 33, .step 0, .step 0, .step 0, .step 0, .step 0, .ack 0, .send 0 44, .step 0, .step 0, .step 0, .step 0, .step 0, .ack 0,
       .send 0 55, .step 0, .step 0, .step 0, .ack 0,
       .recv 1, .step 1, .step 1, .step 1, .step 1, .ack 1, .recv 1, .step 1, .step 1, .step 1, .step 1]).map
      (fun s => (s.head, s.tail, s.enqTail, s.thr 1, s.delivered.map (·.2.2)))
    = some (4294967294, 0, 0, .done (.got 22), [11, 22]) := by decide

end Mutiny.Ring32

namespace Mutiny.LockRing32
open Mutiny.LockRing Mutiny.U32

/-- the full-sync ring (`FullSyncMove`): the `u32` machine `LockRing32` is, action for action and for runs of any length, the
    image modulo 2^32 of model M2 — no hypothesis on threads or schedules at all (under the lock there are no over-claims);
    only `N ∣ 2^32` and `N < 2^31` (the consumer's emptiness test is signed).  It never panics. -/
theorem c15_lockring_refinement (n : Nat) (hn : 0 < n) (hN : M32 % n = 0) (hNs : n ≤ 2147483647) (as : List Act) :
    run32 (img (LockRing.init n)) as = some (img (LockRing.run (LockRing.init n) as)) :=
  sim_run (LockRing.init n) as (inv_init n hn) hN hNs

theorem c15_lockring_refinement_from (s : St) (h : Inv s) (hN : M32 % s.N = 0) (hNs : s.N ≤ 2147483647) (as : List Act) :
    run32 (img s) as = some (img (LockRing.run s as)) :=
  sim_run s as h hN hNs

/-- results, payloads and the lock are untouched by the image (of a thread's registers only the `tail` value an unlocked
    length query has loaded is reduced modulo 2^32) -/
theorem c15_lockring_same_observables (s : St) :
    (∀ t r, (img s).thr t = .done r ↔ s.thr t = .done r) ∧ (img s).buf = s.buf ∧ (img s).accepted = s.accepted ∧
      (img s).locked = s.locked := by
  refine ⟨fun t r => ?_, rfl, rfl, rfl⟩
  show imgLoc (s.thr t) = .done r ↔ s.thr t = .done r
  cases s.thr t <;> simp [imgLoc]

/-- a concrete run on a ring whose counters start 2 below the wrap: three sends, two receives, a length query — counters wrap,
    answers are those of a fresh ring -/
example :
    (run32 (init32 4 4294967294)
      [.send 0 11, .step 0, .step 0, .step 0, .step 0, .step 0, .ack 0, .send 0 22, .step 0, .step 0, .step 0, .step 0, .step 0, .ack 0,
       .send 0 33, .step 0, .step 0, .step 0, .step 0, .step 0, .ack 0,
       .recv 1, .step 1, .step 1, .step 1, .step 1, .step 1, .step 1, .ack 1, .len 2, .step 2, .step 2]).map
      (fun s => (s.head, s.tail, s.thr 2, s.delivered.map (·.2.2)))
    = some (4294967295, 1, .done (.len 2), [11]) := by decide

#print axioms c15_lockring_refinement
#print axioms c15_lockring_refinement_from
#print axioms c15_lockring_same_observables

end Mutiny.LockRing32

namespace Mutiny.Ring32
#print axioms c15_step_refines
#print axioms c15_refinement
#print axioms c15_refinement_from
#print axioms c15_same_results
#print axioms c15_same_payloads
#print axioms c15_window_of_threads
#print axioms c15_pub32_exact

end Mutiny.Ring32
