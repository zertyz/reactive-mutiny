import Mutiny.Proofs.ExecProps

/-!
# C11 — every item of the stream is processed and accounted for exactly once; a failed or timed-out item neither
# stops the executor nor drops later items; the error callback runs once per failed item; the concurrency limit

Model: `Mutiny/Model/Exec.lean` (`classify`, `account`: the counters `ok_events` / `failed_events` / `timed_out_events`
of `StreamExecutor` and the number of `on_err_callback` invocations; `stepEv`: the event machine of one executor).
Scope: every executor variant `v`, with or without a futures timeout, every list of item outcomes — admissible for the
variant or not (the theorems do not need `admissible`).

Trusted, not proved here: that `futures::StreamExt::for_each{,_concurrent}` poll every item of the stream and
`tokio::time::timeout` resolves to `Err` exactly for the `slow*` outcomes — the replay driver checks the counters of the
real runs against `account`.
-/

namespace Mutiny.Exec

/-- every item feeds exactly one of the three counters: none is dropped, none is counted twice -/
theorem c11_accounting (v : Variant) (timeout : Bool) (items : List Outcome) :
    let c := account v timeout items
    c.ok + c.failed + c.timedOut = items.length := by
  simpa [account_eq, accountFrom_eq] using length_filter_effect (fun o => (classify v timeout o).1) items

/-- a failed / timed-out item does not stop the executor: accounting `xs ++ ys` is accounting `xs` and then continuing
    with every item of `ys`, whatever happened in `xs` -/
theorem c11_no_stop (v : Variant) (timeout : Bool) (xs ys : List Outcome) :
    account v timeout (xs ++ ys) = ys.foldl (fun c o => c.add (classify v timeout o)) (account v timeout xs) := by
  simp [account, List.foldl_append]

/-- consequently the counters of `xs ++ ys` are the sums of those of `xs` and of `ys` -/
theorem c11_no_stop_counts (v : Variant) (timeout : Bool) (xs ys : List Outcome) :
    (account v timeout (xs ++ ys)).ok = (account v timeout xs).ok + (account v timeout ys).ok ∧
    (account v timeout (xs ++ ys)).failed = (account v timeout xs).failed + (account v timeout ys).failed ∧
    (account v timeout (xs ++ ys)).timedOut = (account v timeout xs).timedOut + (account v timeout ys).timedOut ∧
    (account v timeout (xs ++ ys)).onErr = (account v timeout xs).onErr + (account v timeout ys).onErr := by
  simp [account_eq, accountFrom_eq]

/-- per item: the error callback is invoked iff the item is counted as failed -/
theorem c11_on_err_item (v : Variant) (timeout : Bool) (o : Outcome) :
    (classify v timeout o).2 = true ↔ (classify v timeout o).1 = .failed := by
  rw [classify_eq]; cases o <;> cases timesOut v timeout <;> simp

/-- the error callback runs exactly once per failed item and never otherwise (all variants of the model) -/
theorem c11_on_err (v : Variant) (timeout : Bool) (items : List Outcome) :
    (account v timeout items).onErr = (account v timeout items).failed := by
  simp only [account_eq, accountFrom_eq]
  exact congrArg _ (congrArg _ (List.filter_congr fun o _ => by simp [← c11_on_err_item]))

/-- per item, with a futures timeout and item futures: a slow item is counted as timed out, whatever it would have
    returned, and the error callback is not invoked for it -/
theorem c11_timeout_item (v : Variant) (hv : v = .futFallible ∨ v = .fut) (o : Outcome)
    (ho : o = .slow ∨ o = .slowErr) : classify v true o = (.timedOut, false) := by
  rcases hv with rfl | rfl <;> rcases ho with rfl | rfl <;> rfl

/-- with a futures timeout and item futures the timed-out counter is the number of slow items; without a timeout, or
    for the variants whose items are not futures, nothing is ever counted as timed out -/
theorem c11_timeout (v : Variant) (timeout : Bool) (items : List Outcome) :
    (timeout = true → (v = .futFallible ∨ v = .fut) →
      (account v timeout items).timedOut = (items.filter (fun o => o = .slow ∨ o = .slowErr)).length) ∧
    ((timeout = false ∨ v = .fallible ∨ v = .plain) → (account v timeout items).timedOut = 0) := by
  rw [account_counts]
  exact ⟨fun ht hv => by simp [timesOut_true.2 ⟨ht, hv⟩], fun h => by simp [timesOut_false.2 h]⟩

/-- closed forms of the `ok` and `failed` counters -/
theorem c11_counts_explicit (v : Variant) (timeout : Bool) (items : List Outcome) :
    (timeout = true → (v = .futFallible ∨ v = .fut) →
      (account v timeout items).ok = (items.filter (fun o => o = .ok)).length ∧
      (account v timeout items).failed = (items.filter (fun o => o = .err)).length) ∧
    ((timeout = false ∨ v = .fallible ∨ v = .plain) →
      (account v timeout items).ok = (items.filter (fun o => o = .ok ∨ o = .slow)).length ∧
      (account v timeout items).failed = (items.filter (fun o => o = .err ∨ o = .slowErr)).length) := by
  rw [account_counts]
  exact ⟨fun ht hv => by simp [timesOut_true.2 ⟨ht, hv⟩], fun h => by simp [timesOut_false.2 h]⟩

/-- the event machine never has more item futures in flight than `max limit 1` — in every reachable state, for every
    configuration (for `futures = false` nothing is ever in flight at all, see `c11_limit_no_futures`).

    `_partial`: this is a statement about the *machine*: its `yielded` step is guarded by
    `inflight.length < max limit 1`.  That the real `futures::StreamExt::for_each_concurrent(limit, ..)` (resp. `for_each`
    for `limit = 1`) never polls more than `limit` item futures at once is the documented contract of that external
    function, which is in the trusted base; it is not proved here.  The harness measures the maximum number of item futures
    simultaneously in flight on the real code, and the replay driver rejects any real log that violates the guard.
    NOTE `limit = 0`: `for_each_concurrent(0, ..)` means *no* limit in `futures 0.3`, whereas the machine uses
    `max 0 1 = 1`; the model is only faithful for `limit ≥ 1`. -/
theorem c11_limit_partial (c : Cfg) (es : List Ev) (s : St) (h : runEv c {} es = some s) :
    s.inflight.length ≤ max c.limit 1 :=
  (inv_run h).lim

/-- without item futures the item is processed inside the poll: nothing is ever in flight -/
theorem c11_limit_no_futures (c : Cfg) (hf : c.futures = false) (es : List Ev) (s : St)
    (h : runEv c {} es = some s) : s.inflight = [] :=
  (inv_run h).nofut hf

/-! ### non-vacuity / sanity -/

-- a failing item and a timed-out item in the middle do not stop the executor, each item is counted once
example : account .futFallible true [.ok, .err, .slow, .slowErr, .ok] =
    { ok := 2, failed := 1, timedOut := 2, onErr := 1 } := by decide
example : account .futFallible false [.ok, .err, .slow, .slowErr, .ok] =
    { ok := 3, failed := 2, timedOut := 0, onErr := 2 } := by decide
example : account .fut true [.ok, .slow, .ok] = { ok := 2, failed := 0, timedOut := 1, onErr := 0 } := by decide
example : account .fallible true [.ok, .err, .ok] = { ok := 2, failed := 1, timedOut := 0, onErr := 1 } := by decide
-- the bound of `c11_limit_partial` is reached: two futures in flight with limit 2; a third `yielded` is refused
example : (runEv { futures := true, limit := 2 } {} [.accepted 1, .accepted 2, .accepted 3, .yielded 1, .yielded 2]).map
    (·.inflight) = some [1, 2] := by decide
example : accepts { futures := true, limit := 2 } [.accepted 1, .accepted 2, .accepted 3, .yielded 1, .yielded 2,
    .yielded 3] = false := by decide
example : accepts { futures := true, limit := 2 } [.accepted 1, .accepted 2, .accepted 3, .yielded 1, .yielded 2,
    .finished 1, .yielded 3] = true := by decide

#print axioms c11_accounting
#print axioms c11_no_stop
#print axioms c11_no_stop_counts
#print axioms c11_on_err
#print axioms c11_on_err_item
#print axioms c11_timeout_item
#print axioms c11_timeout
#print axioms c11_counts_explicit
#print axioms c11_limit_partial
#print axioms c11_limit_no_futures

end Mutiny.Exec
