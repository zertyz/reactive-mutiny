import Mutiny.Proofs.LockRingProps

/-!
# C20 on the `LockRing` model (`FullSyncMove`): a suspended flag holder blocks every other thread

`fs.p.write` (`pWrite v len`) is where the setter of `publish` / a suspended `send_with_async` runs: the slot is leaked
and the spin flag is held.  If that thread is not scheduled, no other thread ever acquires the flag, whatever the other
threads do and for however long; the ring is frozen.  Conversely, with no other thread active, every operation finishes
within 6 own steps.
-/

namespace Mutiny.LockRing

/-- While `u` sits at `pWrite` (flag held) and takes no action: `u` stays there, the flag stays held, every thread
waiting for the flag keeps waiting (same payload), no other thread ever holds the flag, nothing of the ring moves. -/
theorem c20_lock_held_blocks {n : Nat} {s : St} (hn : 0 < n) (h : Reachable n s) {u v len : Nat}
    (hu : s.thr u = .pWrite v len) (as : List Act) (hnb : ∀ a ∈ as, notBy u a) :
    (run s as).thr u = .pWrite v len ∧ (run s as).locked = true
    ∧ (∀ t, t ≠ u →
        (∀ w, s.thr t = .pLock w ∨ s.thr t = .pSpin w →
              (run s as).thr t = .pLock w ∨ (run s as).thr t = .pSpin w)
        ∧ (s.thr t = .cLock ∨ s.thr t = .cSpin → (run s as).thr t = .cLock ∨ (run s as).thr t = .cSpin)
        ∧ ¬ holder ((run s as).thr t))
    ∧ (run s as).head = s.head ∧ (run s as).tail = s.tail ∧ (run s as).buf = s.buf
    ∧ (run s as).accepted = s.accepted ∧ (run s as).delivered = s.delivered ∧ abs (run s as) = abs s := by
  have hh : holder (s.thr u) := by simp [hu, holder]
  obtain ⟨b1, r, b3⟩ := blocked_run (reachable_inv hn h) hh as hnb
  have x := (inv_run s as (reachable_inv hn h)).excl
  have hh' : holder ((run s as).thr u) := b1 ▸ hh
  have e := SameRing.of_eq r
  exact ⟨b1.trans hu, x.locked hh', fun t htu => ⟨fun w => b3 _ (stuck_waitingP w) t, b3 _ stuck_waitingC t,
    x.others_out (.inl hh') htu⟩, e.head, e.tail, e.buf, e.accepted, e.delivered, abs_of_ring r⟩

/-- No `send` / `recv` of another thread completes while `u` is suspended at `pWrite`: a thread that is idle, waiting
for the flag (or inside the lock-free `len`) in `s` is, after any schedule without `u`, still idle / waiting / in
`len` — in particular never at `.done (.sent _)`, `.done .full`, `.done (.got _)` or `.done .empty`. -/
theorem c20_no_completion {n : Nat} {s : St} (hn : 0 < n) (h : Reachable n s) {u v len : Nat}
    (hu : s.thr u = .pWrite v len) (as : List Act) (hnb : ∀ a ∈ as, notBy u a) (t : Nat)
    (hb : blockedLoc (s.thr t)) :
    blockedLoc ((run s as).thr t)
    ∧ (∀ k, (run s as).thr t ≠ .done (.sent k)) ∧ (run s as).thr t ≠ .done .full
    ∧ (∀ x, (run s as).thr t ≠ .done (.got x)) ∧ (run s as).thr t ≠ .done .empty := by
  have := (blocked_run (reachable_inv hn h) (u := u) (by simp [hu, holder]) as hnb).2.2 _ stuck_blockedLoc t hb
  refine ⟨this, ?_, ?_, ?_, ?_⟩ <;> intros <;> intro e <;> simp [e, blockedLoc] at this

/-- Positive counterpart: when all other threads are idle (hence nobody else holds the flag), any pending operation of
`t` — wherever it is — reaches a `done` point within 6 of its own steps.  (No hypothesis `s.locked = false` is needed:
with the others idle, the flag can only be held by `t` itself.) -/
theorem c20_solo_progress {n : Nat} {s : St} (hn : 0 < n) (h : Reachable n s) {t : Nat}
    (ho : ∀ u, u ≠ t → s.thr u = .idle) (ht : s.thr t ≠ .idle) :
    ∃ k, k ≤ 6 ∧ ∃ r, (run s (List.replicate k (.step t))).thr t = .done r :=
  have hi := reachable_inv hn h
  have ⟨k, hk, r⟩ := finishes_togo ht (hi.excl.sole_of_others_out fun u hu => by simp [ho u hu, holder])
  ⟨k, Nat.le_trans hk (togo_le _), r⟩

/-- The same from the call: every call of `t` in a quiescent state completes within 6 own steps. -/
theorem c20_solo_call_progress {n : Nat} {s : St} (hn : 0 < n) (h : Reachable n s) {t : Nat}
    (hidle : ∀ u, s.thr u = .idle) (a : Act) (ha : (∃ v, a = .send t v) ∨ a = .recv t ∨ a = .len t) :
    ∃ k, k ≤ 6 ∧ ∃ r, (run s (a :: List.replicate k (.step t))).thr t = .done r := by
  rcases ha with ⟨v, rfl⟩ | rfl | rfl <;>
    exact c20_solo_progress hn (reachable_apply h _) (fun u hu => by simp [apply, hidle, hu]) (by simp [apply, hidle])

/-! ## non-vacuity -/

/-- Thread 0 suspended at `pWrite` with the flag held; threads 1 (producer) and 2 (consumer) spin forever. -/
example :
    let s := run (init 2) [.send 0 7, .step 0, .step 0, .send 1 8, .recv 2, .step 1, .step 2]
    let as : List Act := [.step 1, .step 2, .step 1, .step 1, .step 2, .len 3, .step 3, .ack 3, .step 2]
    Reachable 2 s ∧ s.thr 0 = .pWrite 7 1 ∧ s.locked = true ∧ s.thr 1 = .pSpin 8 ∧ s.thr 2 = .cSpin
    ∧ (∀ a ∈ as, notBy 0 a)
    ∧ (run s as).thr 1 = .pSpin 8 ∧ (run s as).thr 2 = .cSpin := by
  refine ⟨⟨_, rfl⟩, ?_⟩; decide

/-- Solo progress bound 5 is attained (`send` from the call) and the operation does not finish in 4. -/
example :
    let s := run (init 2) [.send 0 7]
    (run s (List.replicate 5 (.step 0))).thr 0 = .done (.sent 1)
    ∧ (run s (List.replicate 4 (.step 0))).thr 0 = .pUnlocked 1 := by decide

#print axioms c20_lock_held_blocks
#print axioms c20_no_completion
#print axioms c20_solo_progress
#print axioms c20_solo_call_progress

end Mutiny.LockRing
