import Mutiny.Proofs.HandlesProps

/-!
# C14 — shared (`OgreArc`) and unique (`OgreUnique`) owners of one pooled value

Scope: every pool size `n`, every thread count, every schedule: all statements are about every `s` with `Reachable n s`
(or about *every* state when no hypothesis `Reachable` is listed).  `getCB s i` = control block `i`; `rc` is the real
counter, `live`/`lent`/`owed` the ghost census of handles (existing and idle / in use by a call in progress / announced
by `increment_references` and not yet materialised by `raw_copy`).  `pointOf (s.thr t) = some i` says: thread `t` is inside
a `clone` / `increment_references` / `drop` (before its `fetch_sub`) / `references_count` call on control block `i`.
-/

namespace Mutiny.Handles

variable {n : Nat} {s : St}

/-- while at least one handle exists, the slot it points to holds the value it was created with and that value has not
    been destroyed; the same for unique handles -/
theorem c14_deref_stable (hr : Reachable n s) :
    (∀ i, i < s.cbs.length → (getCB s i).live + (getCB s i).lent > 0 →
        s.slot (getCB s i).id = (getCB s i).val ∧ s.alive (getCB s i).id = true) ∧
    (∀ u ∈ s.uniques, s.alive u = true) := by
  have hi := reachable_inv hr
  refine ⟨fun i _ hh => ?_, fun u hu => (hi.unique hu).alive⟩
  have ho := owns_of_owning hi (held_owning hi (i := i) (by omega))
  exact ⟨(hi.owner ho).val, ho.alive⟩

/-- what `deref` answers is the value the shared handle was created with -/
theorem c14_deref_value (hr : Reachable n s) (t i : Nat) (ht : s.thr t = .idle) (hu : usable s i = true) :
    (apply s (.deref t i)).thr t = .done (.value (getCB s i).val) := by
  have hu' := usable_iff.1 hu
  have := ((c14_deref_stable hr).1 i hu'.1 (by omega)).1
  simp [apply, ht, hu, this]

/-- the slot of a handle that is left (existing, in use, or announced), or of a unique handle, is not free -/
theorem c14_held_not_free (hr : Reachable n s) :
    (∀ i, (getCB s i).live + (getCB s i).lent + (getCB s i).owed > 0 → (getCB s i).id ∉ s.free) ∧
    (∀ u ∈ s.uniques, u ∉ s.free) := by
  have hi := reachable_inv hr
  exact ⟨fun i hh => (hi.owner (owns_of_owning hi (held_owning hi hh))).free, fun u hu => (hi.unique hu).free⟩

/-- no action of anybody writes a slot that is not in the free list (every state, every action) -/
theorem c14_no_write_while_held (s : St) (a : Act) (id : Nat) (h : id ∉ s.free) :
    (apply s a).slot id = s.slot id :=
  (apply_untouched s a).slot id h

/-- when no call is in progress on control block `i` and no announced copy is pending, the counter equals the number
    of handles -/
theorem c14_count (hr : Reachable n s) (i : Nat) (hp : ∀ t, pointOf (s.thr t) ≠ some i)
    (ho : (getCB s i).owed = 0) : (getCB s i).rc = (getCB s i).live := by
  obtain ⟨ts, _, h2, _, h4⟩ := census (reachable_inv hr) i
  have : ts = [] := List.eq_nil_iff_forall_not_mem.2 fun t ht => hp t ((h2 t).1 ht)
  simp_all

/-- in general: the counter is the census of all handles, and at least the number of calls in progress -/
theorem c14_count_general (hr : Reachable n s) (i : Nat) :
    (getCB s i).rc = (getCB s i).live + (getCB s i).lent + (getCB s i).owed ∧
    ∀ ts : List Nat, ts.Nodup → (∀ t ∈ ts, pointOf (s.thr t) = some i) → ts.length ≤ (getCB s i).lent :=
  ⟨(reachable_inv hr).rcSum i, parked_le_lent (reachable_inv hr) i⟩

/-- `references_count` answers the counter -/
theorem c14_count_answer (s : St) (t i : Nat) (ht : s.thr t = .count i) :
    (step s t).thr t = .done (.count (getCB s i).rc) := by
  simp [step, ht]

/-- the destructor of a shared value is run by exactly the thread whose `fetch_sub` saw 1 — at the `pa.dealloc.drop`
    step that follows it: `dDec (rc = 1) → dDealloc → dDestroy → dRelease → dFree`; any other `fetch_sub` returns at
    once and destroys nothing; the steps in between touch neither log nor pool (every state) -/
theorem c14_last_drop (s : St) (t i : Nat) :
    (s.thr t = .dDec i →
      ((getCB s i).rc = 1 → (step s t).thr t = .dDealloc i ∧ (step s t).dropLog = s.dropLog) ∧
      ((getCB s i).rc ≠ 1 → (step s t).thr t = .done .unit ∧ (step s t).dropLog = s.dropLog)) ∧
    (s.thr t = .dDealloc i →
      (step s t).thr t = .dDestroy i ∧ (step s t).dropLog = s.dropLog ∧ (step s t).free = s.free ∧
      (step s t).alive = s.alive) ∧
    (s.thr t = .dDestroy i →
      (step s t).thr t = .dRelease i ∧ (step s t).free = s.free ∧ (step s t).alive (getCB s i).id = false ∧
      (step s t).dropLog = s.dropLog ++ [((getCB s i).id, s.slotGen (getCB s i).id, s.slot (getCB s i).id)]) ∧
    (s.thr t = .dRelease i →
      (step s t).thr t = .dFree i ∧ (step s t).free = s.free ++ [(getCB s i).id] ∧ (step s t).dropLog = s.dropLog) := by
  refine ⟨fun ht => ⟨fun h1 => ?_, fun h1 => ?_⟩, fun ht => ?_, fun ht => ?_, fun ht => ?_⟩ <;> simp [step, *]

/-- the entry logged at that `dDestroy` step is the control block's own payload: its slot, its generation, the value
    it was created with -/
theorem c14_last_drop_entry (hr : Reachable n s) (t i : Nat) (ht : s.thr t = .dDestroy i) :
    (step s t).dropLog = s.dropLog ++ [((getCB s i).id, (getCB s i).gen, (getCB s i).val)] := by
  have hi := reachable_inv hr
  have ho := owns_of_destroying hi ht
  obtain ⟨_, _, atDestroy, _⟩ := c14_last_drop s t i
  obtain ⟨_, _, _, log⟩ := atDestroy ht
  rw [log, ho.gen, (hi.owner ho).val]

/-- at the `fetch_sub` that sees 1 the handle being dropped is the only one left, the counter is never 0 at a
    `fetch_sub`, and after the step the counter is 0 and nobody else is working on that control block -/
theorem c14_last_drop_sole (hr : Reachable n s) (t i : Nat) (ht : s.thr t = .dDec i) :
    (getCB s i).rc ≥ 1 ∧
    ((getCB s i).rc = 1 → (getCB s i).live = 0 ∧ (getCB s i).owed = 0 ∧ (getCB s i).lent = 1 ∧
        ∀ u, pointOf (s.thr u) = some i → u = t) := by
  obtain ⟨ts, h1, h2, h3, h4⟩ := census (reachable_inv hr) i
  have htm : t ∈ ts := (h2 t).2 (by rw [ht]; rfl)
  have := List.length_pos_of_mem htm
  refine ⟨by omega, fun hrc => ⟨by omega, by omega, by omega, fun u hu => ?_⟩⟩
  obtain ⟨a, rfl⟩ := List.length_eq_one_iff.1 (show ts.length = 1 by omega)
  rw [List.mem_singleton.1 ((h2 u).2 hu), List.mem_singleton.1 htm]

/-- the destructor log changes only at a `pa.dealloc.drop` step (`dDestroy` for a shared value, `uDestroy` for a
    unique one), by one entry: the slot of that very control block / unique handle (every state, every action) -/
theorem c14_droplog_only (s : St) (a : Act) :
    (apply s a).dropLog = s.dropLog ∨
    (∃ t i, a = .step t ∧ s.thr t = .dDestroy i ∧
        (apply s a).dropLog = s.dropLog ++ [((getCB s i).id, s.slotGen (getCB s i).id, s.slot (getCB s i).id)]) ∨
    (∃ t x, a = .step t ∧ s.thr t = .uDestroy x ∧
        (apply s a).dropLog = s.dropLog ++ [(x, s.slotGen x, s.slot x)]) :=
  (apply_untouched s a).log

/-- every allocation generation is destroyed at most once -/
theorem c14_drop_once (hr : Reachable n s) : (s.dropLog.map (·.2.1)).Nodup :=
  (reachable_inv hr).logNodup

/-- never while a handle (existing, in use, or announced) is left -/
theorem c14_not_destroyed_while_held (hr : Reachable n s) (i : Nat)
    (hh : (getCB s i).live + (getCB s i).lent + (getCB s i).owed > 0) :
    (getCB s i).gen ∉ s.dropLog.map (·.2.1) := by
  have hi := reachable_inv hr
  have ho := owns_of_owning hi (held_owning hi hh)
  have := hi.aliveNotLogged (getCB s i).id ho.alive
  rwa [ho.gen] at this

/-- `OgreUnique::into` (unique → shared) re-labels the owner and touches neither the pool nor the value -/
theorem c14_into_arc (s : St) (t id : Nat) (ht : s.thr t = .idle) (hm : id ∈ s.uniques) :
    (apply s (.intoArc t id)).dropLog = s.dropLog ∧ (apply s (.intoArc t id)).free = s.free ∧
    (apply s (.intoArc t id)).slot = s.slot ∧ (apply s (.intoArc t id)).alive = s.alive ∧
    (apply s (.intoArc t id)).uniques = s.uniques.erase id ∧
    (apply s (.intoArc t id)).thr t = .done (.arc s.cbs.length) ∧
    (getCB (apply s (.intoArc t id)) s.cbs.length).rc = 1 ∧
    (getCB (apply s (.intoArc t id)) s.cbs.length).live = 1 ∧
    (getCB (apply s (.intoArc t id)) s.cbs.length).id = id ∧
    (getCB (apply s (.intoArc t id)) s.cbs.length).val = s.slot id := by
  rw [intoArc_eq ht hm]
  simp [getCB_pushCB, newCB]

/-- the shared handle made by `OgreUnique::into` owns the slot (so the statements about `Owning` apply to it) -/
theorem c14_into_arc_owning (s : St) (t id : Nat) (ht : s.thr t = .idle) (hm : id ∈ s.uniques) :
    Owning (apply s (.intoArc t id)) s.cbs.length := by
  rw [intoArc_eq ht hm]
  exact ⟨by simp, .inl (by simp [getCB_pushCB, newCB])⟩

/-- bulk acquisition: `increment_references(k)` + `k` × `raw_copy` leaves exactly the same state as `k` complete
    `clone`s (every state in which thread `t` is idle and a handle of `i` is available; every `k`) -/
theorem c14_bulk (s : St) (t i k : Nat) (ht : s.thr t = .idle) (hu : usable s i = true) :
    run s ([.incRefs t i k, .step t, .ack t] ++ (List.replicate k [Act.rawCopy t i, Act.ack t]).flatten)
      = run s (List.replicate k [Act.clone t i, Act.step t, Act.ack t]).flatten := by
  have hu' := usable_iff.1 hu
  rw [run_append, incRefs_complete s t i k ht hu, clone_loop t i k s ht hu,
    rawCopy_loop t i k _ (by simpa using ht) (by simpa using hu'.1) (by rw [getCB_updCB]; simp [hu'.1])]
  apply updCB_updCB_eq
  dsimp only; grind

/-- after the bulk acquisition of `c14_bulk`, counter and live handles have grown by `k` and nothing stays announced -/
theorem c14_bulk_counts (s : St) (t i k : Nat) (ht : s.thr t = .idle) (hu : usable s i = true) :
    getCB (run s ([.incRefs t i k, .step t, .ack t] ++ (List.replicate k [Act.rawCopy t i, Act.ack t]).flatten)) i
      = { getCB s i with rc := (getCB s i).rc + k, live := (getCB s i).live + k } := by
  have hu' := usable_iff.1 hu
  rw [c14_bulk s t i k ht hu, clone_loop t i k s ht hu, getCB_updCB]
  simp [hu'.1]

/-! ## non-vacuity -/

/-- two handles dropped concurrently: the first `fetch_sub` sees 2, the second sees 1 and destroys -/
example : let s := run (init 2) [.newArc 0 7 1, .ack 0, .clone 0 0, .step 0, .ack 0, .dropArc 0 0, .dropArc 1 0,
      .step 0, .step 1]
    Reachable 2 s ∧ s.thr 0 = .done .unit ∧ s.thr 1 = .dDealloc 0 ∧ s.dropLog = [] ∧ s.alive 0 = true ∧
    (getCB s 0).rc = 0 := ⟨⟨_, rfl⟩, by decide, by decide, by decide, by decide, by decide⟩

/-- the same run continued: `dDealloc → dDestroy`, nothing destroyed yet; then (next example) `dDestroy → dRelease`,
    destroyed, slot not yet allocatable; then `dRelease → dFree → done` -/
example : let s := run (init 2) [.newArc 0 7 1, .ack 0, .clone 0 0, .step 0, .ack 0, .dropArc 0 0, .dropArc 1 0,
      .step 0, .step 1, .step 1]
    s.thr 1 = .dDestroy 0 ∧ s.dropLog = [] ∧ s.alive 0 = true ∧ s.free = [1] := by decide

example : let s := run (init 2) [.newArc 0 7 1, .ack 0, .clone 0 0, .step 0, .ack 0, .dropArc 0 0, .dropArc 1 0,
      .step 0, .step 1, .step 1, .step 1]
    s.thr 1 = .dRelease 0 ∧ s.dropLog = [(0, 1, 7)] ∧ s.alive 0 = false ∧ s.free = [1] := by decide

example : let s := run (init 2) [.newArc 0 7 1, .ack 0, .clone 0 0, .step 0, .ack 0, .dropArc 0 0, .dropArc 1 0,
      .step 0, .step 1, .step 1, .step 1, .step 1, .step 1]
    s.dropLog = [(0, 1, 7)] ∧ s.free = [1, 0] ∧ (getCB s 0).freed = true ∧ s.thr 1 = .done .unit := by decide

/-- `c14_deref_stable` / `c14_count` : one handle cloned once, nobody in a call -/
example : let s := run (init 2) [.newArc 0 7 1, .ack 0, .clone 0 0, .step 0, .ack 0, .deref 1 0]
    (getCB s 0).live = 2 ∧ (getCB s 0).rc = 2 ∧ s.thr 1 = .done (.value 7) ∧ s.slot 0 = 7 := by decide

/-- `c14_last_drop_sole` hypotheses are satisfiable -/
example : let s := run (init 1) [.newArc 0 7 1, .ack 0, .dropArc 0 0]
    s.thr 0 = .dDec 0 ∧ (getCB s 0).rc = 1 ∧ (getCB s 0).lent = 1 := by decide

/-- `c14_into_arc` -/
example : let s := run (init 2) [.newUnique 0 9, .ack 0, .intoArc 0 0]
    s.thr 0 = .done (.arc 0) ∧ (getCB s 0).rc = 1 ∧ (getCB s 0).val = 9 ∧ s.uniques = [] ∧ s.free = [1] := by decide

/-- `c14_bulk`, k = 1 and k = 2, on a concrete state -/
example : let s := run (init 2) [.newArc 0 7 1, .ack 0]
    (getCB (run s [.incRefs 0 0 2, .step 0, .ack 0, .rawCopy 0 0, .ack 0, .rawCopy 0 0, .ack 0]) 0).rc = 3 ∧
    (getCB (run s [.clone 0 0, .step 0, .ack 0, .clone 0 0, .step 0, .ack 0]) 0).rc = 3 ∧
    (getCB (run s [.incRefs 0 0 2, .step 0, .ack 0, .rawCopy 0 0, .ack 0, .rawCopy 0 0, .ack 0]) 0).live = 3 ∧
    (getCB (run s [.incRefs 0 0 2, .step 0, .ack 0, .rawCopy 0 0, .ack 0, .rawCopy 0 0, .ack 0]) 0).owed = 0 := by
  decide

example (s : St) (t i : Nat) (ht : s.thr t = .idle) (hu : usable s i = true) :
    run s [.incRefs t i 1, .step t, .ack t, .rawCopy t i, .ack t] = run s [.clone t i, .step t, .ack t] :=
  c14_bulk s t i 1 ht hu

example (s : St) (t i : Nat) (ht : s.thr t = .idle) (hu : usable s i = true) :
    run s [.incRefs t i 2, .step t, .ack t, .rawCopy t i, .ack t, .rawCopy t i, .ack t]
      = run s [.clone t i, .step t, .ack t, .clone t i, .step t, .ack t] :=
  c14_bulk s t i 2 ht hu

#print axioms c14_deref_stable
#print axioms c14_deref_value
#print axioms c14_held_not_free
#print axioms c14_no_write_while_held
#print axioms c14_count
#print axioms c14_count_general
#print axioms c14_count_answer
#print axioms c14_last_drop
#print axioms c14_last_drop_entry
#print axioms c14_last_drop_sole
#print axioms c14_droplog_only
#print axioms c14_drop_once
#print axioms c14_not_destroyed_while_held
#print axioms c14_into_arc
#print axioms c14_into_arc_owning
#print axioms c14_bulk
#print axioms c14_bulk_counts

end Mutiny.Handles
