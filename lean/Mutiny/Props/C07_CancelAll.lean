import Mutiny.Proofs.CancelAllWalk

/-!
# C07 — `cancel_all_streams()` as in the pinned crate (unlocked walk): what held, and finding D11

`Mutiny/Model/CancelAll.lean`: the walk of `cancel_all_streams()` over `used_streams` WITHOUT `streams_lock`, on top of the
stream-id bookkeeping of model M6.  The defect is repaired in /repo; the repaired, locked walk and its all-interleavings
theorem are in `Props/C07_CancelAllLock.lean`.

* `c07_cancel_all_quiescent`: while no listener is being created or removed, the walk tells exactly the listed streams to end
  (each once, in list order) — for every list length and every `MAX_STREAMS`;
* `c07_cancel_all_race_counterexample` (**finding D11**): interleaved with the removal of a listener with a LOWER stream id —
  which rewrites the list entry by entry under a lock the walk does not take — the walk reads entries 0 and 1 of
  `[0,1,2]`, then the sentinel of `[1,2,–]`: stream 2 is live, parked or not, and is never told to end.  The harness
  exhibits the same schedule on the pinned channels (`multi sub=cancelall`).
-/

namespace Mutiny.CancelAll
open CancelAllLock (walkFrom walkFrom_plan)

/-- **no churn during the walk**: `cancel_all_streams()` on a list `ids ++ sentinels` tells exactly the streams `ids` to end, in
    order, and touches no other flag — for every `MAX_STREAMS` and every number of live streams -/
theorem c07_cancel_all_quiescent (s : St) (ids : List Nat) (hw : s.w = .idle)
    (hused : s.m.used = ids ++ List.replicate (s.m.MAX - ids.length) s.m.MAX) (hlen : ids.length ≤ s.m.MAX)
    (hne : ∀ x ∈ ids, x ≠ s.m.MAX) :
    let s' := run s (.cancelAll :: List.replicate (2 * ids.length + 1) .wstep)
    s'.w = .done ∧ s'.cancelled = s.cancelled ++ ids ∧ (∀ x ∈ ids, s'.m.keep x = false) ∧ (∀ x, x ∉ ids → s'.m.keep x = s.m.keep x) := by
  have hwalk : walkFrom s.m.used s.m.MAX 0 = ids := by rw [hused]; exact walkFrom_plan ids _ hne hlen
  have h1 : apply s .cancelAll = { s with w := .read 0 } := by simp only [apply, hw, if_pos]
  obtain ⟨a, b, c⟩ := walk ids.length { s with w := .read 0 } 0 rfl (by rw [hwalk])
  rw [hwalk] at b c
  intro s'
  rw [show s' = run (apply s .cancelAll) (List.replicate (2 * ids.length + 1) .wstep) from rfl, h1]
  exact ⟨a, b, fun x hx => (c x).trans (if_pos hx), fun x hx => (c x).trans (if_neg hx)⟩

/-! ## finding D11 -/

/-- one `create` on thread `t`, run to completion and acknowledged; with `MAX_STREAMS = 4` the call takes
    `MAX + 5 = 9` steps: three of `create`, the lock, the peek, four entries written -/
def createActs (t : Nat) : List Act := [.multi (.create t)] ++ List.replicate 9 (.multi (.step t)) ++ [.multi (.ack t)]

/-- three listeners (ids 0, 1, 2; `MAX_STREAMS = 4`); `cancel_all_streams()` starts; listener 0 is removed meanwhile -/
def raceWitness : List Act :=
  createActs 0 ++ createActs 0 ++ createActs 0 ++
  [.cancelAll, .wstep, .wstep,                                   -- entry 0 read (= 0): stream 0 told to end
   .multi (.drop 20 0), .multi (.step 20), .multi (.step 20), .multi (.step 20), .multi (.step 20), .multi (.step 20),
   .multi (.step 20),                                            -- the removal rewrites entry 0 := 1 (list is now [1,1,2,–])
   .wstep, .wstep,                                               -- entry 1 read (= 1): stream 1 told to end
   .multi (.step 20), .multi (.step 20), .multi (.step 20),      -- entry 1 := 2, entry 2 := sentinel   ([1,2,–,–])
   .wstep]                                                       -- entry 2 read: the sentinel — the walk is over

/-- **D11**: the walk finishes, the removal finishes, listener 2 is live and its keep-running flag is still set: it was never
    told to end (nor woken) although `cancel_all_streams()` returned -/
theorem c07_cancel_all_race_counterexample :
    let s := run (init 4) raceWitness
    s.w = .done ∧ s.m.thr 20 = .done .unit ∧ s.m.live = [1, 2] ∧ s.m.used = [1, 2, 4, 4] ∧ s.cancelled = [0, 1] ∧
      s.m.keep 2 = true := by decide

/-- the quiescent theorem is not vacuous: the same three listeners, nobody removed: all three are told to end -/
example : let s := run (init 4) (createActs 0 ++ createActs 0 ++ createActs 0 ++ .cancelAll :: List.replicate 7 .wstep)
    s.w = .done ∧ s.cancelled = [0, 1, 2] ∧ (List.range 4).map s.m.keep = [false, false, false, false] := by decide

#print axioms c07_cancel_all_quiescent
#print axioms c07_cancel_all_race_counterexample

end Mutiny.CancelAll
