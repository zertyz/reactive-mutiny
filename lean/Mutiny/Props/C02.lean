import Mutiny.Proofs.RingProps

/-!
# C02 — the ring behaves as ONE atomic bounded FIFO queue

Scope: every `n > 0`, every state `s` with `ReachableX n s`, i.e. reachable from `init n` by *any* action list (any number
of threads, any schedule, any length) in which no index-based cancel CAS succeeds on a foreign sequence number
(`Mutiny/Proofs/RingInv.lean`: `CanExact`, `cancel_steals`).  All executions built from `send`/`recv`/`len`/`reserve`/
`fill`/`pubIdx`/`step`/`ack` — everything C02 talks about — are in scope (`reachableX_of_noCancel`).

Abstract queue: `abs s = accepted.drop head` (published and not yet released).
Linearization points: successful `tail` CAS (enqueue), successful `head` CAS (dequeue of the front element); the
`empty` / `full` answers are justified by the ghost witnesses loaded inside the same call.
-/

namespace Mutiny.Ring

variable {n : Nat} {s : St}

/-- the queue never holds more than `N` elements -/
theorem c02_capacity (hn : 0 < n) (hr : ReachableX n s) : s.tail - s.head ≤ s.N ∧ (abs s).length ≤ s.N := by
  have h := reachable_inv hn hr
  have := h.hTN
  rw [abs_length h]; omega

/-- every micro-step is either invisible, or exactly one abstract enqueue at the back (the thread then goes on to measure
    the length it reports, `c02_sent_len` / `c08_publish_idx_len`), or exactly one abstract dequeue of the front element
    (and the thread returns it) -/
theorem c02_step_abs (hn : 0 < n) (hr : ReachableX n s) (t : Nat) :
    abs (step s t) = abs s
    ∨ (∃ v id len, s.thr t = .pPublish v id len ∧ abs (step s t) = abs s ++ [v] ∧ (abs s).length < s.N
          ∧ (step s t).thr t = .pLen id)
    ∨ (∃ id idx g, s.thr t = .rPub id idx g ∧ abs (step s t) = abs s ++ [s.buf idx] ∧ (abs s).length < s.N
          ∧ (step s t).thr t = .rLen g)
    ∨ (∃ id v, s.thr t = .cRelease id v ∧ abs s = v :: abs (step s t) ∧ (step s t).thr t = .done (.got v)) :=
  step_abs (reachable_inv hn hr) t

/-- the length an accepted `send` reports is measured after the publication: the number of elements up to and including
    its own that are still unreleased at that instant (never less than 1, never more than `N`) -/
theorem c02_sent_len (hn : 0 < n) (hr : ReachableX n s) (t id : Nat) (ht : s.thr t = .pLen id) :
    (step s t).thr t = .done (.sent (max 1 (id + 1 - s.head))) ∧ max 1 (id + 1 - s.head) ≤ s.N ∧ id < s.tail :=
  sent_len (reachable_inv hn hr) ht

/-- calls, `fill`, acknowledgements: never visible (holds in every state, reachable or not) -/
theorem c02_call_abs (s : St) (a : Act) (h : ∀ t, a ≠ .step t) : abs (apply s a) = abs s :=
  abs_call s a h

/-- `empty` is answered only if the abstract queue was empty when the same call loaded `head`:
    * the ghost `w` recorded at the `head` load says exactly "`abs = []` now";
    * `cChkTail h w` is entered only by that load;
    * if the subsequent `tail` load returns `h` then `w = true`;
    * `done empty` is entered only from `cChkTail h true` with `tail = h`. -/
theorem c02_empty_witness (hn : 0 < n) (hr : ReachableX n s) (t : Nat) :
    (s.thr t = .cChkHead → ((step s t).thr t = .cChkTail s.head true ↔ abs s = [])) ∧
    (∀ h w, s.thr t = .cChkTail h w → s.tail = h → w = true) ∧
    (∀ a h w, (apply s a).thr t = .cChkTail h w → s.thr t = .cChkTail h w ∨
        (a = .step t ∧ s.thr t = .cChkHead ∧ h = s.head ∧ (w = true ↔ abs s = []))) ∧
    (∀ a, (apply s a).thr t = .done .empty → s.thr t = .done .empty ∨
        (a = .step t ∧ ∃ h, s.thr t = .cChkTail h true ∧ s.tail = h)) :=
  have hi := reachable_inv hn hr
  ⟨cChkHead_step hi t, fun _ _ => cChkTail_witness hi, cChkTail_origin hi t, done_empty_origin hi t⟩

/-- `full` is answered only if all `N` sequence numbers `head .. head+N-1` were taken when the same call loaded `head`:
    * at a `head` load that fails the admission test every sequence number of the window is published-and-unreleased or
      claimed by another producer-side thread, and the ghost `w = true` is recorded;
    * the ghost of every `pRecede` is `true`;
    * `done full` is entered only from `pRecede` (by the successful recede CAS). -/
theorem c02_full_witness (hn : 0 < n) (hr : ReachableX n s) (t : Nat) :
    (∀ v id rsv w, s.thr t = .pRecede v id rsv w → w = true) ∧
    (∀ v id rsv, s.thr t = .pLoadHead v id rsv → ¬ (id - s.head < s.N) →
        (step s t).thr t = .pRecede v id rsv true ∧
        ∀ k, s.head ≤ k → k < s.head + s.N → k < s.tail ∨ ∃ u, u ≠ t ∧ holdsP (s.thr u) k) ∧
    (∀ a, (apply s a).thr t = .done .full → s.thr t = .done .full ∨
        (a = .step t ∧ ∃ v id rsv, s.thr t = .pRecede v id rsv true ∧ s.enqTail = id + 1)) :=
  have hi := reachable_inv hn hr
  ⟨hi.recOk t, pLoadHead_full hi t, done_full_origin hi t⟩

/-- values leave in exactly the order they were accepted, sequence numbers `0, 1, 2, …` without gap or repetition -/
theorem c02_fifo (hn : 0 < n) (hr : ReachableX n s) :
    s.delivered.map (·.2.2) = s.accepted.take s.head ∧ s.delivered.map (·.2.1) = List.range s.head :=
  ⟨(reachable_inv hn hr).delVals, (reachable_inv hn hr).delIds⟩

/-! ## non-vacuity -/

/-- `fullRun` (in `RingProps.lean`): two producers fill a ring of size 2, a third finds it full -/
example : ReachableX 2 (run (init 2) fullRun) ∧ abs (run (init 2) fullRun) = [6, 5] ∧
    (abs (run (init 2) fullRun)).length = (run (init 2) fullRun).N ∧
    (run (init 2) fullRun).thr 2 = .pRecede 7 2 false true :=
  ⟨reachableX_of_noCancel 2 fullRun (by intro t; simp [fullRun]), by decide, by decide, by decide⟩

/-- a state in which the next step of thread 0 is the enqueue linearization point (2nd disjunct of `c02_step_abs`) -/
example : let s := run (init 2) [.send 0 5, .step 0, .step 0, .step 0]
    s.thr 0 = .pPublish 5 0 0 ∧ abs (step s 0) = abs s ++ [5] ∧ (step s 0).thr 0 = .pLen 0 ∧
      (step (step s 0) 0).thr 0 = .done (.sent 1) := by decide

/-- … the index-based publish (3rd disjunct) -/
example : let s := run (init 2) [.reserve 0, .step 0, .step 0, .ack 0, .fill 0 9, .pubIdx 0]
    s.thr 0 = .rPub 0 0 0 ∧ abs (step s 0) = abs s ++ [9] := by decide

/-- … the dequeue linearization point (4th disjunct) -/
example : let s := run (init 2) [.send 0 5, .step 0, .step 0, .step 0, .step 0, .recv 1, .step 1, .step 1, .step 1]
    s.thr 1 = .cRelease 0 5 ∧ abs s = 5 :: abs (step s 1) := by decide

/-- an `empty` answer (ghost witness `true`) and a consumer that must *not* answer `empty` (witness `false`) -/
example : (run (init 2) [.recv 0, .step 0, .step 0, .step 0, .step 0]).thr 0 = .cChkTail 0 true := by decide
example : (run (init 2) [.recv 0, .step 0, .step 0, .step 0, .send 1 5, .step 1, .step 1, .step 1, .step 1, .step 0]).thr 0
    = .cChkTail 0 false := by decide

#print axioms c02_capacity
#print axioms c02_step_abs
#print axioms c02_sent_len
#print axioms c02_call_abs
#print axioms c02_empty_witness
#print axioms c02_full_witness
#print axioms c02_fifo

end Mutiny.Ring
