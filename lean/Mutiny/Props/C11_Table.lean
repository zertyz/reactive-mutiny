import Mutiny.Model.Exec
import Mutiny.Generated.ExecTable

/-!
# C11 — the per-item decision table of model M10 IS what the current source does (translator G5)

`tools/extract.py` (G5) re-reads `src/stream_executor.rs` on every run: for each `spawn_*executor` function and each of its `item_processor`
closures it walks the tree of `match` arms and instrument guards (`if Self::INSTRUMENTS.cheap_profiling()`, the guards inside the `on_*_item!`
macros) and writes every way through the closure as `(outcome path, cheap_profiling?, effects)` into `Generated/ExecTable.lean` — effects =
which event counter is fed and how the error callback is invoked — together with the arms of `match concurrency_limit`.

Here each generated table is proved EQUAL to the table computed from the model's `classify` (the function the accounting theorems of
`Props/C11.lean` are about), for every executor kind, with and without a futures timeout, with and without metrics.  A change of the source
that moves an item to another counter, feeds no counter or two, drops / adds / detaches an error-callback invocation on some branch, makes
a counter depend on another instrument bit, or hands another limit to the combinator changes the generated file and breaks an obligation
below before any workload runs.
-/

namespace Mutiny.Exec
open Mutiny.Generated.ExecTable

def counterName : Effect → String
  | .ok => "ok"
  | .failed => "failed"
  | .timedOut => "timed_out"

/-- how each executor kind invokes the error callback (awaited future / plain call / has none) -/
def errCall : Variant → String
  | .futFallible => "onErr.await"
  | .fallible => "onErr.sync"
  | _ => "-"

/-- the source-level outcome paths of a processor closure (the `Ok(..)` / `Err(..)` arms taken, outermost first, sorted) and the model
    outcome each stands for; `Err(_time_out_err)` is `tokio::time::timeout` expiring: the model's `slow` (and `slowErr`: same arm) -/
def paths : Variant → Bool → List (String × Outcome)
  | .futFallible, false => [("Err(err)", .err), ("Ok(yielded_item)", .ok)]
  | .futFallible, true  => [("Err(_time_out_err)", .slow), ("Ok(non_timed_out_result)>Err(err)", .err),
                            ("Ok(non_timed_out_result)>Ok(yielded_item)", .ok)]
  | .fut, false         => [("", .ok)]
  | .fut, true          => [("Err(_time_out_err)", .slow), ("Ok(non_timed_out_result)", .ok)]
  | .fallible, _        => [("Err(err)", .err), ("Ok(yielded_item)", .ok)]
  | .plain, _           => [("", .ok)]

/-- what `classify` says happens on one path: the counter (only with metrics) and the error callback (always) -/
def row (v : Variant) (timeout : Bool) (p : String × Outcome) (metrics : Bool) : String × Bool × List String :=
  let c := classify v timeout p.2
  (p.1, metrics, (if metrics then [counterName c.1] else []) ++ (if c.2 then [errCall v] else []))

def table (v : Variant) (timeout : Bool) : List (String × Bool × List String) :=
  (paths v timeout).flatMap fun p => [row v timeout p false, row v timeout p true]

/-! ## the obligations: generated = computed from `classify` -/

theorem tbl_futFallible_no_timeout : spawn_executor_0 = table .futFallible false := rfl
theorem tbl_futFallible_timeout    : spawn_executor_1 = table .futFallible true := rfl
theorem tbl_fut_no_timeout         : spawn_futures_executor_0 = table .fut false := rfl
theorem tbl_fut_timeout            : spawn_futures_executor_1 = table .fut true := rfl
/-- the two kinds whose items are not futures have ONE closure: a configured timeout changes nothing (`classify` ignores it for them) -/
theorem tbl_fallible : spawn_fallibles_executor_0 = table .fallible false ∧ spawn_fallibles_executor_0 = table .fallible true := ⟨rfl, rfl⟩
theorem tbl_plain : spawn_non_futures_non_fallibles_executor_0 = table .plain false ∧
    spawn_non_futures_non_fallibles_executor_0 = table .plain true := ⟨rfl, rfl⟩
/-- the fifth, internal kind (`spawn_non_futures_executor`, outside the property's four): fallible items counted like `fallible`, no error
    callback -/
theorem tbl_internal : spawn_non_futures_executor_0 =
    [("Err(err)", false, []), ("Err(err)", true, ["failed"]), ("Ok(yielded_item)", false, []), ("Ok(yielded_item)", true, ["ok"])] := rfl

/-- closures per function: a `Duration::ZERO` arm and a timeout arm exactly for the two kinds whose items are futures -/
theorem tbl_closures : spawn_executor_closures = 2 ∧ spawn_futures_executor_closures = 2 ∧ spawn_fallibles_executor_closures = 1 ∧
    spawn_non_futures_executor_closures = 1 ∧ spawn_non_futures_non_fallibles_executor_closures = 1 := ⟨rfl, rfl, rfl, rfl, rfl⟩

/-- **the limit handed to the combinator is the configured one**, and `1` means `for_each` (sequential) — in every function and arm -/
theorem tbl_limit :
    spawn_executor_limit = ["1:for_each()", "_:for_each_concurrent(concurrency_limit as usize)", "1:for_each()", "_:for_each_concurrent(concurrency_limit as usize)"] ∧
    spawn_futures_executor_limit = ["1:for_each()", "_:for_each_concurrent(concurrency_limit as usize)", "1:for_each()", "_:for_each_concurrent(concurrency_limit as usize)"] ∧
    spawn_fallibles_executor_limit = ["1:for_each()", "_:for_each_concurrent(concurrency_limit as usize)"] ∧
    spawn_non_futures_executor_limit = ["1:for_each()", "_:for_each_concurrent(concurrency_limit as usize)"] ∧
    spawn_non_futures_non_fallibles_executor_limit = ["1:for_each()", "_:for_each_concurrent(concurrency_limit as usize)"] := ⟨rfl, rfl, rfl, rfl, rfl⟩

/-! ## what the tables say, as statements about `classify` (so that the obligations above are not about an accidental encoding) -/

/-- every path of every table feeds exactly one counter with metrics, none without, and invokes the error callback exactly on the paths
    `classify` marks as failed -/
theorem table_rows (v : Variant) (timeout : Bool) (r : String × Bool × List String) (h : r ∈ table v timeout) :
    ∃ p ∈ paths v timeout, r.1 = p.1 ∧
      (r.2.1 = true → r.2.2 = counterName (classify v timeout p.2).1 :: (if (classify v timeout p.2).2 then [errCall v] else [])) ∧
      (r.2.1 = false → r.2.2 = (if (classify v timeout p.2).2 then [errCall v] else [])) := by
  simp only [table, List.mem_flatMap, List.mem_cons, List.mem_nil_iff, or_false] at h
  obtain ⟨p, hp, h | h⟩ := h <;> subst h <;> exact ⟨p, hp, rfl, by simp [row], by simp [row]⟩

/-- the paths of a table cover every admissible outcome of the kind: `slowErr` takes the arm of `slow` when a timeout is configured and the arm
    of `err` otherwise; `slow` without a timeout the arm of `ok` -/
theorem paths_cover (v : Variant) (timeout : Bool) (o : Outcome) (ha : admissible v o = true) :
    ∃ p ∈ paths v timeout, classify v timeout p.2 = classify v timeout o := by
  revert ha; cases v <;> cases timeout <;> cases o <;> decide

#print axioms tbl_futFallible_no_timeout
#print axioms tbl_futFallible_timeout
#print axioms tbl_fut_no_timeout
#print axioms tbl_fut_timeout
#print axioms tbl_fallible
#print axioms tbl_plain
#print axioms tbl_internal
#print axioms tbl_closures
#print axioms tbl_limit
#print axioms table_rows
#print axioms paths_cover

end Mutiny.Exec
