import Mutiny.Generated.RingOps
import Mutiny.Model.Ring32
import Mutiny.Model.LockRing32

/-!
# C15 — the `u32` machines perform the arithmetic the SOURCE performs (translator G4)

`tools/extract.py` re-reads, on every run, the counter arithmetic of the two ring buffers from `/repo`'s current source and emits it
as one list of operator kinds per function, in source order (`Mutiny/Generated/RingOps.lean`).  The theorems below say that each
list is the one the hand-written `u32` machines `Ring32` / `LockRing32` were written against — operator by operator:

* `wsub` / `wadd` (overflowing_ / wrapping_ sub / add)  ↦ `U32.wsub` / `U32.wadd` (never panic, wrap modulo 2^32);
* `cadd` / `cmul` (plain `+` / `*`: checked in a build with overflow checks) ↦ `U32.cadd` / `U32.cmul` (`none` = panic), used only by the
  lap reconstruction of the two index-based calls (`pubReguess32`, `canReguess32`), proved never to overflow there (`Proofs/U32.lean`);
* `asI32` ↦ `U32.posI32` (signed emptiness test `hasItem32`, the clamp of `lenAfter32`);
* `div`, `mod` ↦ `/ N`, `index32`;
* `fetchAdd`, `cas` ↦ the claim steps and the publication / release / recede steps.

A change of an operator in the source (a `saturating_sub` for an `overflowing_sub`, a plain `-` for a `wrapping_sub`, an `as i32` dropped)
changes the generated list and breaks the corresponding obligation here, before any schedule is run; `bin/check` then searches the
origin-differential scenarios for a history on which the answers differ.  (Regex-level reading: what the translator cannot see — a
change of operands, a reordering that keeps the operators — is left to the replay of `Ring32` / `LockRing32` from origins near 2^32.)
-/

namespace Mutiny.RingOps
open Mutiny.Generated

/-- `leak_slot_internal` (`pFetch`, `pLoadHead`): claim by `fetch_add`; `slot_id.overflowing_sub(head)` (`admit32` / `lenBefore32`);
    `slot_id % N` (`index32`); the second `fetch_add` is the re-claim after `report_full_fn()` answered true (the channels pass `|| false`) -/
theorem ops_atomic_leak_slot : atomicMove_leak_slot_internal = ["fetchAdd", "wsub", "mod", "fetchAdd"] := rfl

/-- `try_publish_leaked_internal` (`pPublish`): CAS `tail` from `slot_id` to `slot_id.overflowing_add(1)` -/
theorem ops_atomic_publish : atomicMove_try_publish_leaked_internal = ["cas", "wadd"] := rfl

/-- `try_publish_leaked_internal_index` (`rPub`, `rLen`, `pubReguess32`): the CAS; on success `max(1, previous_tail.overflowing_sub(head))`
    — once in the verification build's arm (with the `am.r.len` yield point in front of the `head` load), once in the production arm;
    on failure compare the laps (`/ N` twice) and re-guess `slot_index + (reloaded_tail / N) * N` with CHECKED `+` and `*` -/
theorem ops_atomic_publish_index :
    atomicMove_try_publish_leaked_internal_index =
      ["cas", "wadd", "max", "wsub", "max", "wsub", "div", "div", "cadd", "div", "cmul"] := rfl

/-- `try_unleak_slot_internal` (`pRecede`): CAS `enqueuer_tail` from `slot_id.overflowing_add(1)` back to `slot_id` -/
theorem ops_atomic_recede : atomicMove_try_unleak_slot_internal = ["cas", "wadd"] := rfl

/-- `try_unleak_slot_index_internal` (`rCan`, `canReguess32`): as above with the lap taken from `reloaded_enqueuer_tail.wrapping_sub(1)`
    (the REPAIRED source: the pinned one subtracted with a checked `-`, finding D3) -/
theorem ops_atomic_cancel_index :
    atomicMove_try_unleak_slot_index_internal = ["cas", "wadd", "wsub", "div", "div", "cadd", "wsub", "div", "cmul"] := rfl

/-- `consume_leaking_internal` (`cFetch`, `cLoadTail`, `cRecede`, `cChkHead`, `cChkTail`): claim; `tail.overflowing_sub(slot_id) as i32 > 0`
    (`hasItem32`); `% N`; the receding CAS from `slot_id.overflowing_add(1)`; the re-claim -/
theorem ops_atomic_consume :
    atomicMove_consume_leaking_internal = ["fetchAdd", "wsub", "asI32", "mod", "cas", "wadd", "fetchAdd"] := rfl

/-- `release_leaked_internal` (`cRelease`): CAS `head` from `slot_id` to `slot_id.overflowing_add(1)` -/
theorem ops_atomic_release : atomicMove_release_leaked_internal = ["cas", "wadd"] := rfl

/-- `len_after_publishing` (`pLen`, `lenAfter32`): `i32::max(1, slot_id.overflowing_add(1).overflowing_sub(head) as i32)` -/
theorem ops_atomic_len_after : atomicMove_len_after_publishing = ["max", "wadd", "wsub", "asI32"] := rfl

/-- `available_elements_count` (`lLen`/`lLenH`, `len32`): `tail.overflowing_sub(head)` — once in the verification build's two-load
    block, once in the production expression -/
theorem ops_atomic_len : atomicMove_available_elements_count = ["wsub", "wsub"] := rfl

/-- `FullSyncMove::leak_slot_internal` (`pCheck`: `fsAdmit32`, `index32`) -/
theorem ops_fs_leak_slot : fullSyncMove_leak_slot_internal = ["wsub", "mod"] := rfl
/-- `publish_leaked_internal` (`pPublish`: `tail = tail.overflowing_add(1)`) -/
theorem ops_fs_publish : fullSyncMove_publish_leaked_internal = ["wadd"] := rfl
/-- `unleak_internal`: `tail = tail.overflowing_sub(1)`, unlock.  Not modelled: no channel and no container of the crate calls it (and it
    would corrupt the ring if one did: `leak_slot_internal` does not advance `tail`, so there is nothing to take back) — recorded in
    DESIGN.md under "noticed, not counted against any property"; the obligation pins its text so that a caller appearing would be noticed
    together with a change of it -/
theorem ops_fs_unleak : fullSyncMove_unleak_internal = ["wsub"] := rfl
/-- `consume_leaking_internal` (`cLen`: `available_elements_count() as i32 > 0`; `cRead`: `head % N`) -/
theorem ops_fs_consume : fullSyncMove_consume_leaking_internal = ["asI32", "mod"] := rfl
/-- `release_leaked_internal` (`cRelease`: `head = head.overflowing_add(1)`) -/
theorem ops_fs_release : fullSyncMove_release_leaked_internal = ["wadd"] := rfl
/-- `available_elements_count` (`cLenT`/`cLen`, `lLen`/`lLenH`): `tail.overflowing_sub(head)` — once in the verification build's
    two-load block, once in the production expression -/
theorem ops_fs_len : fullSyncMove_available_elements_count = ["wsub", "wsub"] := rfl

/-- every function the translator was asked for exists in the source -/
theorem ops_all_found : ringOps.all (fun p => p.2 != ["<function not found>"]) = true := by decide

end Mutiny.RingOps

#print axioms Mutiny.RingOps.ops_atomic_leak_slot
#print axioms Mutiny.RingOps.ops_atomic_publish
#print axioms Mutiny.RingOps.ops_atomic_publish_index
#print axioms Mutiny.RingOps.ops_atomic_recede
#print axioms Mutiny.RingOps.ops_atomic_cancel_index
#print axioms Mutiny.RingOps.ops_atomic_consume
#print axioms Mutiny.RingOps.ops_atomic_release
#print axioms Mutiny.RingOps.ops_atomic_len_after
#print axioms Mutiny.RingOps.ops_atomic_len
#print axioms Mutiny.RingOps.ops_fs_leak_slot
#print axioms Mutiny.RingOps.ops_fs_publish
#print axioms Mutiny.RingOps.ops_fs_unleak
#print axioms Mutiny.RingOps.ops_fs_consume
#print axioms Mutiny.RingOps.ops_fs_release
#print axioms Mutiny.RingOps.ops_fs_len
#print axioms Mutiny.RingOps.ops_all_found
