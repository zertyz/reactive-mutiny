import Mutiny.Proofs.MmapProps

/-!
# C17 on the log channel — listener churn never disturbs another listener

The queue-per-listener Multi channels violate C17 (the counterexamples of `Props/C17.lean`; ids `D7-*` in
`known_findings.json`).  The mmap-log channel does not: its listeners share nothing but the append-only log, and
creating a listener (at ANY instant, by any thread, of any of the three subscription kinds) only appends a cursor to the
subscriber table; removing one touches no shared state of the log at all (the stream-id bookkeeping decides whom `send`
WAKES, which is C04's business).  Model M9 (`Mutiny/Model/MmapLog.lean`) has every access of the log topic as its own
step and lets subscriptions, publications and polls of any number of threads interleave freely, so the statement below
quantifies over all of that:

* `c17_log_listener_unaffected` — in EVERY reachable state, for EVERY subscriber `i`, whatever other subscribers were
  created meanwhile: what `i` received is literally the segment `log[start_i, cur_i)` of the one shared log — positions
  `start_i, start_i + 1, …` each exactly once, in order, with the log's values; nothing else was ever delivered to it;
  its cursor never passed the visible tail.
* the listener being ADDED yields a suffix of the events without gap or repeat: its `start` is the value of
  `consumer_tail` its subscription loaded (`c09_new_only`, `c09_split_created`), and from there on it is an ordinary
  subscriber (previous item).
-/

namespace Mutiny.MmapLog

variable {s : St}

/-- **C17 for the log channel, every interleaving of publications, polls and listener creations.** -/
theorem c17_log_listener_unaffected (hr : ReachableX s) (i : Nat) (hi : i < s.subs.length) :
    delPV s i = (s.log.drop (getSub s i).start).take (cur s i - (getSub s i).start) ∧
    delOf s i = List.range' (getSub s i).start (cur s i - (getSub s i).start) ∧
    (∀ p v, (i, p, v) ∈ s.delivered ↔ (getSub s i).start ≤ p ∧ p < cur s i ∧ s.log[p]? = some (p, v)) ∧
    Bound s.consTail (getSub s i).kind (cur s i) := by
  have d := Received.of_inv (reachable_inv hr) hi rfl
  exact ⟨d.seg, d.pos, d.mem, d.bound⟩

set_option maxRecDepth 8192 in
/-- non-vacuity: the run of `Props/C09.lean`'s examples — listeners 0 / 1 (a split taken while a publication was in
    flight), 2 (joined) and 3 (new events only) are created at four different instants while three events are sent; each
    of the four holds exactly its segment of the one log -/
example : let s := run init (demoA ++ demoB ++ [.step 2] ++ demoC ++ demoD ++ [.step 6] ++ demoE)
    ReachableX s ∧ s.subs.length = 4 ∧ s.log = [(0, 10), (1, 11), (2, 12)] ∧
    (List.range 4).map (fun i => ((getSub s i).start, delPV s i)) =
      [(0, [(0, 10)]), (1, [(1, 11)]), (0, [(0, 10), (1, 11)]), (2, [(2, 12)])] :=
  ⟨demo_reachable _ (by decide), by decide, by decide, by decide⟩

#print axioms c17_log_listener_unaffected

end Mutiny.MmapLog
