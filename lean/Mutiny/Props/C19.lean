import Mutiny.Proofs.IncAvgInv
import Mutiny.Proofs.IncAvgOnce
import Mutiny.Proofs.IncAvgMean

/-!
# C19 — `AtomicIncrementalAverage64`: no update is lost and every reading is a consistent `(count, average)` pair

Model: `Mutiny/Model/IncAvg.lean` (`inc` = `ia.load`, then `ia.cas` retried with the reloaded value; `probe` = one load).
All theorems hold for **every** `avgUpd` (the IEEE formula on bit patterns is a parameter of the model), every thread
count, every schedule.  `commits` = measurements in the order their CAS succeeded; `fold avgUpd xs` = the cell content
after committing `xs` in that order.
-/

namespace Mutiny.IncAvg

/-- The inductive invariant, spelled out: the cell is the fold of the commit order; the values the cell ever held are
exactly the folds of the prefixes of the commit order (oldest first), the last one being the current cell; the expected
value carried by a thread at its CAS is one of those. -/
theorem c19_invariant {avgUpd : Nat → Nat → Nat → Nat} {s : St} (h : Reachable avgUpd s) :
    s.cell = fold avgUpd s.commits
    ∧ s.stored = (List.range (s.commits.length + 1)).map (fun k => fold avgUpd (s.commits.take k))
    ∧ s.stored.getLast? = some s.cell
    ∧ ∀ t x cur, s.thr t = .iCas x cur → cur ∈ s.stored :=
  have hi := reachable_inv h
  ⟨hi.cellFold, hi.storedEq, hi.last, hi.casMem⟩

/-- **No lost update (counter).**  As long as at most `u32::MAX` measurements were committed, the counter half of the
cell is exactly the number of commits (the first commit after `u32::MAX` triggers the reset to 100).  No bound on
`avgUpd` is needed: the model's `join c a = c + a * 2^32` is over unbounded naturals and `split` recovers both halves
whenever `c < 2^32`.  That the joined value never exceeds 64 bits, i.e. that the `u64` arithmetic of the Rust code
coincides with the model's, is `c19_cell_fits_u64` below, for an `avgUpd` with 32-bit results. -/
theorem c19_no_lost_update {avgUpd : Nat → Nat → Nat → Nat} {s : St} (h : Reachable avgUpd s)
    (hlen : s.commits.length < W32) : (split s.cell).1 = s.commits.length := by
  rw [(reachable_inv h).cellFold]; exact fold_counter _ hlen

/-- With a 32-bit `avgUpd` (`havg`), every value the cell ever holds fits in 64 bits — for ever, also across the counter
reset — and the counter half is always `< 2^32`. -/
theorem c19_cell_fits_u64 {avgUpd : Nat → Nat → Nat → Nat} (havg : ∀ c a x, avgUpd c a x < W32) {s : St}
    (h : Reachable avgUpd s) : (∀ j ∈ s.stored, j < W32 * W32) ∧ s.cell < W32 * W32 := by
  have hi := reachable_inv h
  refine ⟨fun j hj => ?_, ?_⟩
  · rw [hi.storedEq] at hj
    obtain ⟨k, _, rfl⟩ := mem_prefixFolds.1 hj
    exact fold_lt_u64 havg _
  · rw [hi.cellFold]; exact fold_lt_u64 havg _

/-- **No lost update (pair).**  Below the reset, the `(counter, average)` pair in the cell is the unpacked recurrence
`(c, a) ↦ (c + 1, avgUpd c a x)` applied to *all* committed measurements, in commit order: no measurement is skipped and
none is applied twice. -/
theorem c19_pair_is_recurrence {avgUpd : Nat → Nat → Nat → Nat} {s : St} (h : Reachable avgUpd s)
    (hlen : s.commits.length < W32) :
    split s.cell = s.commits.foldl (fun p x => (p.1 + 1, avgUpd p.1 p.2 x)) (0, 0) := by
  rw [(reachable_inv h).cellFold]; exact split_fold _ hlen

/-- **Each `inc` commits exactly once (successful CAS).**  A thread at `iCas x cur` whose expected value is current
appends its own `x` to the commit order, installs `upd cur x` and is done; nobody else moves. -/
theorem c19_commit_step {avgUpd : Nat → Nat → Nat → Nat} {s : St} {t x cur : Nat}
    (ht : s.thr t = .iCas x cur) (hc : s.cell = cur) :
    (step avgUpd s t).commits = s.commits ++ [x]
    ∧ (step avgUpd s t).cell = upd avgUpd s.cell x
    ∧ (step avgUpd s t).stored = s.stored ++ [upd avgUpd s.cell x]
    ∧ (step avgUpd s t).thr t = .done .unit
    ∧ ∀ u, u ≠ t → (step avgUpd s t).thr u = s.thr u := by
  subst hc; simp +contextual [step, ht]

/-- **Failed CAS.**  Nothing shared changes and the thread retries with the reloaded value. -/
theorem c19_failed_cas_step {avgUpd : Nat → Nat → Nat → Nat} {s : St} {t x cur : Nat}
    (ht : s.thr t = .iCas x cur) (hc : s.cell ≠ cur) :
    (step avgUpd s t).cell = s.cell ∧ (step avgUpd s t).commits = s.commits
    ∧ (step avgUpd s t).stored = s.stored ∧ (step avgUpd s t).thr t = .iCas x s.cell
    ∧ ∀ u, u ≠ t → (step avgUpd s t).thr u = s.thr u := by
  simp +contextual [step, ht, hc]

/-- **Only a successful CAS commits.**  If any action changes `cell`, `commits` or `stored`, it is a step of a thread
`t` sitting at `iCas x s.cell`; it appends that thread's `x` (exactly one entry) and moves `t` to `done`.  (A thread
leaves `done` only through `ack` + a new `inc` call, so one call = one commit.) -/
theorem c19_only_cas_commits {avgUpd : Nat → Nat → Nat → Nat} {s : St} {a : Act}
    (hch : (apply avgUpd s a).commits ≠ s.commits ∨ (apply avgUpd s a).cell ≠ s.cell
            ∨ (apply avgUpd s a).stored ≠ s.stored) :
    ∃ t x, a = .step t ∧ s.thr t = .iCas x s.cell
      ∧ (apply avgUpd s a).commits = s.commits ++ [x] ∧ (apply avgUpd s a).thr t = .done .unit := by
  rcases apply_cases avgUpd s a with ⟨e, -⟩ | ⟨t, l, l', -, -, e⟩ | ⟨t, x, rfl, ht, e⟩
  · simp [e] at hch
  · simp [e] at hch
  · exact ⟨t, x, rfl, ht, by simp [e, commit], by simp [e, commit]⟩

/-- A thread inside `inc` stays inside `inc` with the same measurement until its own successful CAS: the only exits
from `iLoad x` / `iCas x _` are `iCas x _` and (after the commit of `x`) `done`. -/
theorem c19_inc_in_flight {avgUpd : Nat → Nat → Nat → Nat} {s : St} {t x : Nat} (a : Act)
    (ht : s.thr t = .iLoad x ∨ ∃ cur, s.thr t = .iCas x cur) :
    ((apply avgUpd s a).thr t = .iLoad x ∨ ∃ cur, (apply avgUpd s a).thr t = .iCas x cur)
    ∨ ((apply avgUpd s a).thr t = .done .unit ∧ a = .step t ∧ (apply avgUpd s a).commits = s.commits ++ [x]) := by
  rcases apply_cases avgUpd s a with ⟨e, -⟩ | ⟨u, l, l', hlu, hl, e⟩ | ⟨u, y, rfl, hu, e⟩ <;> rw [e]
  · exact .inl ht
  · by_cases hut : t = u
    · subst hut
      exact .inl (by simpa [flying] using (hl.flying_iff x).2 (.inl (hlu ▸ ht)))
    · exact .inl (by simpa [hut] using ht)
  · by_cases hut : t = u
    · subst hut
      have : y = x := by
        rcases ht with h | ⟨c, h⟩ <;> rw [h] at hu
        · cases hu
        · cases hu; rfl
      exact .inr ⟨by simp [commit], rfl, by simp [commit, this]⟩
    · exact .inl (by simpa [commit, hut] using ht)

/-- **Exactly once, trace level.**  Along any run `as` from `init`: the measurements of the accepted `inc` calls
(`acceptedVals`, in call order) are, as a multiset, the committed ones plus those of the calls still in flight — the
latter listed once per thread by `L`, which is exactly the set of `(t, x)` with `t` at `iLoad x` / `iCas x _`
(`flying`).  So no accepted measurement is dropped and none is committed twice. -/
theorem c19_exactly_once (avgUpd : Nat → Nat → Nat → Nat) (as : List Act) :
    ∃ L : List (Nat × Nat), (L.map (·.1)).Nodup
      ∧ (∀ t x, (t, x) ∈ L ↔ flying ((run avgUpd init as).thr t) x)
      ∧ (acceptedVals avgUpd init as).Perm ((run avgUpd init as).commits ++ L.map (·.2)) := by
  have := acct_run (avgUpd := avgUpd) init as [] acct_init
  rwa [List.nil_append] at this

/-- **No lost update, end to end.**  Whenever no `inc` call is in flight, the commit order is a permutation of the
accepted measurements, and (up to `u32::MAX` calls) the counter read from the cell is the number of accepted calls. -/
theorem c19_quiescent_no_lost_update (avgUpd : Nat → Nat → Nat → Nat) (as : List Act)
    (hq : ∀ t x, ¬ flying ((run avgUpd init as).thr t) x) :
    (acceptedVals avgUpd init as).Perm (run avgUpd init as).commits
    ∧ ((acceptedVals avgUpd init as).length < W32 →
        (split (run avgUpd init as).cell).1 = (acceptedVals avgUpd init as).length) := by
  obtain ⟨L, _, mem, perm⟩ := c19_exactly_once avgUpd as
  obtain rfl : L = [] := List.eq_nil_iff_forall_not_mem.2 fun ⟨t, x⟩ hp => hq t x ((mem t x).1 hp)
  have perm' : (acceptedVals avgUpd init as).Perm (run avgUpd init as).commits := by simpa using perm
  refine ⟨perm', fun hlen => ?_⟩
  rw [perm'.length_eq] at hlen ⊢
  exact c19_no_lost_update ⟨as, rfl⟩ hlen

/-- A `probe` step always answers (with the split of the current cell) and changes nothing shared. -/
theorem c19_probe_step {avgUpd : Nat → Nat → Nat → Nat} {s : St} {t : Nat} (ht : s.thr t = .pProbe) :
    (step avgUpd s t).thr t = .done (.probed (split s.cell).1 (split s.cell).2)
    ∧ (step avgUpd s t).cell = s.cell ∧ (step avgUpd s t).commits = s.commits := by
  simp [step, ht]

/-- **Consistent pair.**  What `probe` returns is the split of *one* value of the cell: the fold of a prefix of the
commit order (in fact of the whole current commit order: `k = s.commits.length`), never a counter from one update and
an average from another. -/
theorem c19_consistent_pair {avgUpd : Nat → Nat → Nat → Nat} {s : St} (h : Reachable avgUpd s) {t c a : Nat}
    (ht : s.thr t = .pProbe) (hd : (step avgUpd s t).thr t = .done (.probed c a)) :
    (c, a) = split (fold avgUpd s.commits)
    ∧ ∃ k, k ≤ s.commits.length ∧ (c, a) = split (fold avgUpd (s.commits.take k)) := by
  rw [(c19_probe_step ht).1, (reachable_inv h).cellFold] at hd
  cases hd
  exact ⟨rfl, s.commits.length, Nat.le_refl _, by rw [List.take_length]⟩

/-- Every value the cell ever held — in particular every value a `probe` may have read at any earlier instant, and
every expected value a CAS carries — is the fold of a prefix of the commit order. -/
theorem c19_stored_are_prefix_folds {avgUpd : Nat → Nat → Nat → Nat} {s : St} (h : Reachable avgUpd s) :
    (∀ j ∈ s.stored, ∃ k, k ≤ s.commits.length ∧ j = fold avgUpd (s.commits.take k))
    ∧ ∀ t x cur, s.thr t = .iCas x cur → ∃ k, k ≤ s.commits.length ∧ cur = fold avgUpd (s.commits.take k) := by
  have hi := reachable_inv h
  have h1 : ∀ j ∈ s.stored, ∃ k, k ≤ s.commits.length ∧ j = fold avgUpd (s.commits.take k) := by
    intro j hj; rw [hi.storedEq] at hj; exact mem_prefixFolds.1 hj
  exact ⟨h1, fun t x cur ht => h1 cur (hi.casMem t x cur ht)⟩

/-- `split_joined` / `join_split` are inverse of each other (for a 32-bit counter). -/
theorem c19_split_join :
    (∀ c a, c < W32 → split (join c a) = (c, a)) ∧ (∀ j, join (split j).1 (split j).2 = j) :=
  ⟨fun _ _ hc => split_join hc, join_split⟩

/-- **The recurrence is the arithmetic mean**, exactly, over the rationals:
`incAvg (n, a) x = (n + 1, n / (n + 1) * a + x / (n + 1))`.  (Floating-point rounding is outside the model.) -/
theorem c19_mean_exact (xs : List ℚ) (h : xs ≠ []) :
    xs.foldl incAvg (0, 0) = ((xs.length : ℚ), xs.sum / xs.length) := by
  simpa using foldl_incAvg xs 0 0 (by simpa using h)

/-! ## non-vacuity -/

/-- Two threads load the same value `0`; thread 0 commits; the CAS of thread 1 fails (nothing shared changes), it
retries with the reloaded value and commits; a probe then reads `(2, 15)` = mean of `[10, 20]`. -/
example :
    let f : Nat → Nat → Nat → Nat := fun c a x => (c * a + x) / (c + 1)
    let s := run f init [.inc 0 10, .inc 1 20, .step 0, .step 1, .step 0]
    let s' := run f s [.step 1, .step 1, .probe 2, .step 2]
    Reachable f s ∧ Reachable f s'
    ∧ s.thr 0 = .done .unit ∧ s.commits = [10] ∧ s.cell = join 1 10
    ∧ s.thr 1 = .iCas 20 0 ∧ s.cell ≠ 0                                       -- the CAS of thread 1 will fail
    ∧ (step f s 1).thr 1 = .iCas 20 (join 1 10) ∧ (step f s 1).commits = [10]  -- failed, reloaded
    ∧ s'.thr 1 = .done .unit ∧ s'.commits = [10, 20] ∧ s'.stored = [0, join 1 10, join 2 15]
    ∧ s'.thr 2 = .done (.probed 2 15)
    ∧ acceptedVals f init [.inc 0 10, .inc 1 20, .step 0, .step 1, .step 0, .step 1, .step 1, .probe 2, .step 2]
        = [10, 20] := by
  refine ⟨⟨_, rfl⟩, ⟨[.inc 0 10, .inc 1 20, .step 0, .step 1, .step 0, .step 1, .step 1, .probe 2, .step 2], rfl⟩, ?_⟩
  decide

/-- `c19_mean_exact` on a concrete list. -/
example : [(1 : ℚ), 2, 6].foldl incAvg (0, 0) = (3, 3) := by
  rw [c19_mean_exact _ (by simp)]; norm_num

#print axioms c19_invariant
#print axioms c19_no_lost_update
#print axioms c19_cell_fits_u64
#print axioms c19_pair_is_recurrence
#print axioms c19_commit_step
#print axioms c19_failed_cas_step
#print axioms c19_only_cas_commits
#print axioms c19_inc_in_flight
#print axioms c19_exactly_once
#print axioms c19_quiescent_no_lost_update
#print axioms c19_consistent_pair
#print axioms c19_probe_step
#print axioms c19_stored_are_prefix_folds
#print axioms c19_split_join
#print axioms c19_mean_exact

end Mutiny.IncAvg
