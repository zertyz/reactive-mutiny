import Mutiny.Proofs.LockRingProps

/-!
# C02 on the `LockRing` model (`FullSyncMove`): bounded FIFO queue, fixed linearization points, exact `empty`/`full`

`abs s = accepted.drop head` is the abstract queue.  All theorems hold for every capacity `n > 0`, every number of
threads, every schedule (`Reachable n s`).  Theorems without a `Reachable` hypothesis hold in *every* state.
-/

namespace Mutiny.LockRing

/-- The occupancy never exceeds the capacity. -/
theorem c02_capacity {n : Nat} {s : St} (hn : 0 < n) (h : Reachable n s) :
    s.tail - s.head ≤ s.N ∧ (abs s).length ≤ s.N := by
  have hi := reachable_inv hn h
  rw [abs_length hi]; have := hi.cap; omega

/-- Fixed linearization points: a step either leaves the abstract queue alone, or is the `pPublish` step of a `send`
(enqueue of `v` at the back; there was room; the reported `len` is the exact abstract length after enqueueing), or is
the `cRelease` step of a `recv` (dequeue of `v` from the front). -/
theorem c02_step_abs {n : Nat} {s : St} (hn : 0 < n) (h : Reachable n s) (t : Nat) :
    abs (step s t) = abs s
    ∨ (∃ v len, s.thr t = .pPublish v len ∧ abs (step s t) = abs s ++ [v] ∧ (abs s).length < s.N
          ∧ len = (abs s).length + 1)
    ∨ (∃ v, s.thr t = .cRelease v ∧ abs s = v :: abs (step s t)) := by
  have := step_abs_exact (reachable_inv hn h) t
  split at this
  next v len e => exact .inr (.inl ⟨v, len, e, this⟩)
  next v e => exact .inr (.inr ⟨v, e, this⟩)
  next => exact .inl this

/-- Determinate form of `c02_step_abs`: the effect on `abs` is a function of the program point. -/
theorem c02_step_abs_exact {n : Nat} {s : St} (hn : 0 < n) (h : Reachable n s) (t : Nat) :
    match s.thr t with
    | .pPublish v len => abs (step s t) = abs s ++ [v] ∧ (abs s).length < s.N ∧ len = (abs s).length + 1
    | .cRelease v => abs s = v :: abs (step s t)
    | _ => abs (step s t) = abs s :=
  step_abs_exact (reachable_inv hn h) t

/-- The result `sent len` reported later is the `len` fixed at the linearization point
(`pPublish → pUnlocked → done`). -/
theorem c02_sent_len_carried (s : St) (t : Nat) :
    (∀ v len, s.thr t = .pPublish v len → (step s t).thr t = .pUnlocked len)
    ∧ (∀ len, s.thr t = .pUnlocked len → (step s t).thr t = .done (.sent len)) :=
  ⟨fun _ _ h => by rw [step_thr_self, h]; rfl, fun _ h => by rw [step_thr_self, h]; rfl⟩

/-- Call / acknowledge actions never touch the abstract queue (any state). -/
theorem c02_call_abs (s : St) (a : Act) (ha : ∀ t, a ≠ .step t) : abs (apply s a) = abs s :=
  abs_of_ring (ring_apply s a fun t e => absurd e (ha t))

/-- `recv` takes the `empty` exit exactly when the abstract queue is empty at its `cLen` step. -/
theorem c02_empty_witness {n : Nat} {s : St} (hn : 0 < n) (h : Reachable n s) {t : Nat} (ht : s.thr t = .cLen) :
    (step s t).thr t = .cEmptyUnlocked ↔ abs s = [] := by
  have hi := reachable_inv hn h
  rw [step_thr_self, ht, abs_eq_nil_iff hi, next]
  have := hi.ht
  split <;> simp <;> omega

/-- `.done .empty` is only entered from `.cEmptyUnlocked`, by a step of the same thread (any state, any action). -/
theorem c02_empty_only_from_unlocked (s : St) (a : Act) (t : Nat)
    (h1 : (apply s a).thr t = .done .empty) (h2 : s.thr t ≠ .done .empty) :
    a = .step t ∧ s.thr t = .cEmptyUnlocked :=
  (exit_paths s a t (h1 ▸ Ne.symm h2)).1 h1

/-- `.cEmptyUnlocked` is only entered from `.cLen`, by a step of the same thread (any state, any action). -/
theorem c02_unlocked_only_from_cLen (s : St) (a : Act) (t : Nat)
    (h1 : (apply s a).thr t = .cEmptyUnlocked) (h2 : s.thr t ≠ .cEmptyUnlocked) :
    a = .step t ∧ s.thr t = .cLen :=
  (exit_paths s a t (h1 ▸ Ne.symm h2)).2.1 h1

/-- The `step`-only reading of the two previous facts. -/
theorem c02_empty_structural (s : St) (t : Nat) :
    ((step s t).thr t = .done .empty → s.thr t ≠ .done .empty → s.thr t = .cEmptyUnlocked)
    ∧ ((step s t).thr t = .cEmptyUnlocked → s.thr t = .cLen) := by
  refine ⟨fun h1 h2 => (c02_empty_only_from_unlocked s (.step t) t h1 h2).2, fun h1 => ?_⟩
  by_cases h2 : s.thr t = .cEmptyUnlocked
  · simp [step_thr_self, h2, next] at h1
  · exact (c02_unlocked_only_from_cLen s (.step t) t h1 h2).2

/-- `send` takes the `full` exit exactly when the abstract queue holds `N` elements at its `pCheck` step. -/
theorem c02_full_witness {n : Nat} {s : St} (hn : 0 < n) (h : Reachable n s) {t v : Nat}
    (ht : s.thr t = .pCheck v) :
    (step s t).thr t = .pFullUnlocked ↔ (abs s).length = s.N := by
  have hi := reachable_inv hn h
  rw [step_thr_self, ht, abs_length hi, next]
  have := hi.cap
  split <;> simp <;> omega

/-- `.done .full` is only entered from `.pFullUnlocked`, by a step of the same thread (any state, any action). -/
theorem c02_full_only_from_unlocked (s : St) (a : Act) (t : Nat)
    (h1 : (apply s a).thr t = .done .full) (h2 : s.thr t ≠ .done .full) :
    a = .step t ∧ s.thr t = .pFullUnlocked :=
  (exit_paths s a t (h1 ▸ Ne.symm h2)).2.2.1 h1

/-- `.pFullUnlocked` is only entered from `.pCheck`, by a step of the same thread (any state, any action). -/
theorem c02_unlocked_only_from_pCheck (s : St) (a : Act) (t : Nat)
    (h1 : (apply s a).thr t = .pFullUnlocked) (h2 : s.thr t ≠ .pFullUnlocked) :
    a = .step t ∧ ∃ v, s.thr t = .pCheck v :=
  (exit_paths s a t (h1 ▸ Ne.symm h2)).2.2.2 h1

/-- The `step`-only reading of the two previous facts. -/
theorem c02_full_structural (s : St) (t : Nat) :
    ((step s t).thr t = .done .full → s.thr t ≠ .done .full → s.thr t = .pFullUnlocked)
    ∧ ((step s t).thr t = .pFullUnlocked → ∃ v, s.thr t = .pCheck v) := by
  refine ⟨fun h1 h2 => (c02_full_only_from_unlocked s (.step t) t h1 h2).2, fun h1 => ?_⟩
  by_cases h2 : s.thr t = .pFullUnlocked
  · simp [step_thr_self, h2, next] at h1
  · exact (c02_unlocked_only_from_pCheck s (.step t) t h1 h2).2

/-- FIFO: the `i`-th delivery carries sequence number `i` and the `i`-th accepted value. -/
theorem c02_fifo {n : Nat} {s : St} (hn : 0 < n) (h : Reachable n s) :
    s.delivered.map (·.2.2) = s.accepted.take s.head ∧ s.delivered.map (·.2.1) = List.range s.head :=
  ⟨(reachable_inv hn h).delVal, (reachable_inv hn h).delIdx⟩

/-! ## non-vacuity -/

/-- A full ring of capacity 2 with a third `send` sitting at its `pCheck`: the `full` witness fires. -/
example :
    let s := run (init 2) [.send 0 7, .step 0, .step 0, .step 0, .step 0, .step 0, .ack 0,
                           .send 0 8, .step 0, .step 0, .step 0, .step 0, .step 0, .ack 0,
                           .send 1 9, .step 1]
    Reachable 2 s ∧ s.thr 1 = .pCheck 9 ∧ abs s = [7, 8] ∧ (abs s).length = s.N
      ∧ (step s 1).thr 1 = .pFullUnlocked := by
  refine ⟨⟨_, rfl⟩, ?_⟩; decide

/-- Both linearization points are reachable: a `pPublish` step enqueues, a `cRelease` step dequeues. -/
example :
    let s := run (init 2) [.send 0 7, .step 0, .step 0, .step 0]
    let s' := run s [.step 0, .step 0, .recv 1, .step 1, .step 1, .step 1, .step 1]
    Reachable 2 s ∧ s.thr 0 = .pPublish 7 1 ∧ abs s = [] ∧ abs (step s 0) = [7]
      ∧ s'.thr 1 = .cRelease 7 ∧ abs s' = [7] ∧ abs (step s' 1) = [] := by
  refine ⟨⟨_, rfl⟩, ?_⟩; decide

/-- An empty ring with a `recv` at `cLen`: the `empty` witness fires. -/
example :
    let s := run (init 2) [.recv 0, .step 0, .step 0]
    s.thr 0 = .cLen ∧ abs s = [] ∧ (step s 0).thr 0 = .cEmptyUnlocked
      ∧ (step (step s 0) 0).thr 0 = .done .empty := by decide

#print axioms c02_capacity
#print axioms c02_step_abs
#print axioms c02_step_abs_exact
#print axioms c02_sent_len_carried
#print axioms c02_call_abs
#print axioms c02_empty_witness
#print axioms c02_empty_only_from_unlocked
#print axioms c02_unlocked_only_from_cLen
#print axioms c02_empty_structural
#print axioms c02_full_witness
#print axioms c02_full_only_from_unlocked
#print axioms c02_unlocked_only_from_pCheck
#print axioms c02_full_structural
#print axioms c02_fifo

end Mutiny.LockRing
