import Mutiny.Proofs.HandlesProps

/-!
# C13 — pool allocator: one owner per slot; exhaustion and reuse are exact

`newUnique` / `dropUnique` are the raw `alloc_with` / `dealloc_id` of the pool (an `OgreUnique` is just the owner of the
returned id); `newArc` allocates through the same path.  Everything holds in the presence of all other operations of the
model (shared handles being cloned and dropped concurrently, conversions, …): every `n`, every `s` with `Reachable n s`.
`Owning s i` : control block `i` owns its slot (`rc > 0`, or `oa.drop.dealloc` still pending).
`inTransitOf s (s.thr t) = some x` : thread `t` is inside `dealloc_id` for slot `x` (destructor pending or running —
`dDestroy`/`uDestroy` — or destructor done and free-list push pending — `dRelease`/`uRelease`).
-/

namespace Mutiny.Handles

variable {n : Nat} {s : St}

/-- an allocation never hands out a slot that somebody owns: the id it returns was in the free list, is `< N`, is not
    owned by a unique handle and not owned by any control block -/
theorem c13_exclusive (hr : Reachable n s) (t v id : Nat) (ht : s.thr t = .idle)
    (hres : (apply s (.newUnique t v)).thr t = .done (.unique id)) :
    id ∈ s.free ∧ id < s.N ∧ id ∉ s.uniques ∧ (∀ i, Owning s i → (getCB s i).id ≠ id) ∧
    (∀ u, inTransitOf s (s.thr u) ≠ some id) :=
  have hx := newUnique_from_free ht hres
  ⟨hx, free_excl (reachable_inv hr) hx⟩

/-- the same for an allocation through `OgreArc::new`: the new control block is a fresh one and its slot was free and
    unowned -/
theorem c13_exclusive_arc (hr : Reachable n s) (t v k j : Nat) (ht : s.thr t = .idle) (hk : k > 0)
    (hres : (apply s (.newArc t v k)).thr t = .done (.arc j)) :
    j = s.cbs.length ∧
    (getCB (apply s (.newArc t v k)) j).id ∈ s.free ∧ (getCB (apply s (.newArc t v k)) j).id < s.N ∧
    (getCB (apply s (.newArc t v k)) j).id ∉ s.uniques ∧
    (∀ i, Owning s i → (getCB s i).id ≠ (getCB (apply s (.newArc t v k)) j).id) ∧
    (∀ u, inTransitOf s (s.thr u) ≠ some (getCB (apply s (.newArc t v k)) j).id) :=
  have ⟨hj, hx⟩ := newArc_from_free ht hk hres
  ⟨hj, hx, free_excl (reachable_inv hr) hx⟩

/-- exact accounting: the owning control blocks (listed without repetition in `own`), the unique handles, the slots in
    transit inside `dealloc_id` (threads listed without repetition in `tr`) and the free list partition the `N` slots —
    as a count, and as a permutation of `0 .. N-1` -/
theorem c13_bound (hr : Reachable n s) :
    s.N = n ∧
    ∃ own tr : List Nat, own.Nodup ∧ tr.Nodup ∧ (∀ i, i ∈ own ↔ Owning s i) ∧
      (∀ t, t ∈ tr ↔ (inTransitOf s (s.thr t)).isSome = true) ∧
      s.uniques.length + own.length + tr.length + s.free.length = s.N ∧
      (own.map (fun i => (getCB s i).id) ++ s.uniques ++ tr.map (slotOf s) ++ s.free).Perm (List.range s.N) :=
  ⟨reachable_N hr, pool_partition (reachable_inv hr)⟩

/-- at most `N` slots are outstanding -/
theorem c13_at_most_N (hr : Reachable n s) (own : List Nat) (hn : own.Nodup) (ho : ∀ i ∈ own, Owning s i) :
    s.uniques.length + own.length ≤ s.N := by
  obtain ⟨_, own', _, h1, _, h2, _, h3, _⟩ := c13_bound hr
  have := hn.length_le_of_subset (l₂ := own') (fun i hi => (h2 i).2 (ho i hi))
  omega

/-- an allocation answers "none" exactly when the free list is empty, i.e. exactly when all `N` slots are outstanding
    (owned, or still inside `dealloc_id`) -/
theorem c13_exhaustion (hr : Reachable n s) (t v : Nat) (ht : s.thr t = .idle) :
    ((apply s (.newUnique t v)).thr t = .done .none ↔ s.free = []) ∧
    (∀ k, k > 0 → ((apply s (.newArc t v k)).thr t = .done .none ↔ s.free = [])) ∧
    (s.free = [] ↔ ∃ own tr : List Nat, own.Nodup ∧ tr.Nodup ∧ (∀ i, i ∈ own ↔ Owning s i) ∧
        (∀ t, t ∈ tr ↔ (inTransitOf s (s.thr t)).isSome = true) ∧
        s.uniques.length + own.length + tr.length = s.N) := by
  refine ⟨?_, ?_, ?_⟩
  · cases hf : s.free with
    | nil => rw [newUnique_none v ht hf]; simp
    | cons x rest => rw [newUnique_eq v ht hf]; simp
  · intro k hk
    cases hf : s.free with
    | nil => rw [newArc_none v ht hk hf]; simp
    | cons x rest => rw [newArc_eq v ht hk hf]; simp
  · obtain ⟨_, own, tr, h1, h2, h3, h4, h5, _⟩ := c13_bound hr
    constructor
    · intro hf; rw [hf] at h5; exact ⟨own, tr, h1, h2, h3, h4, by simpa using h5⟩
    · rintro ⟨own', tr', g1, g2, g3, g4, g5⟩
      have e1 := Card.unique ⟨own, h1, h3, rfl⟩ ⟨own', g1, g3, rfl⟩
      have e2 := Card.unique ⟨tr, h2, h4, rfl⟩ ⟨tr', g2, g4, rfl⟩
      exact List.eq_nil_of_length_eq_zero (by omega)

/-- whenever a slot is outstanding — owned, or in transit inside `dealloc_id`, in particular at the very moment of the
    free-list push (`dRelease` / `uRelease`) — the free list is not full: the push in `dealloc_id` (whose result the
    code ignores) cannot fail -/
theorem c13_dealloc_room (hr : Reachable n s)
    (h : s.uniques ≠ [] ∨ (∃ i, Owning s i) ∨ ∃ t, (inTransitOf s (s.thr t)).isSome = true) :
    s.free.length < s.N := by
  obtain ⟨_, own, tr, h1, h2, h3, h4, h5, _⟩ := c13_bound hr
  rcases h with h | ⟨i, hi⟩ | ⟨t, ht⟩
  · have := List.length_pos_iff.2 h; omega
  · have := List.length_pos_of_mem ((h3 i).2 hi); omega
  · have := List.length_pos_of_mem ((h4 t).2 ht); omega

/-- `c13_dealloc_room` at the two program points of the free-list push, and what the push does -/
theorem c13_dealloc_room_at_push (hr : Reachable n s) (t : Nat) :
    (∀ i, s.thr t = .dRelease i → s.free.length < s.N ∧ (step s t).free = s.free ++ [(getCB s i).id]) ∧
    (∀ x, s.thr t = .uRelease x → s.free.length < s.N ∧ (step s t).free = s.free ++ [x]) := by
  have room {l : Loc} (hl : s.thr t = l) (h : (inTransitOf s l).isSome = true) : s.free.length < s.N :=
    c13_dealloc_room hr (.inr (.inr ⟨t, hl ▸ h⟩))
  exact ⟨fun i hl => ⟨room hl rfl, by simp [step, hl]⟩, fun x hl => ⟨room hl rfl, by simp [step, hl]⟩⟩

/-- `dealloc` = give the slot up (`dropUnique`), run the destructor (`uDestroy` step), push the id (`uRelease` step).
    After the `uRelease` step the id is at the *end* of the free list, and not before: until then `free` is unchanged -/
theorem c13_dealloc_frees (s : St) (t id : Nat) (ht : s.thr t = .idle) (hm : id ∈ s.uniques) :
    (apply s (.dropUnique t id)).free = s.free ∧ (apply s (.dropUnique t id)).thr t = .uDestroy id ∧
    (run s [.dropUnique t id, .step t]).free = s.free ∧ (run s [.dropUnique t id, .step t]).thr t = .uRelease id ∧
    (run s [.dropUnique t id, .step t]).alive id = false ∧
    (run s [.dropUnique t id, .step t, .step t]).free = s.free ++ [id] ∧
    (run s [.dropUnique t id, .step t, .step t]).uniques = s.uniques.erase id ∧
    (run s [.dropUnique t id, .step t, .step t]).alive id = false ∧
    (run s [.dropUnique t id, .step t, .step t]).dropLog = s.dropLog ++ [(id, s.slotGen id, s.slot id)] ∧
    (run s [.dropUnique t id, .step t, .step t]).thr t = .done .unit := by
  have e1 := dropUnique_eq ht hm
  have e2 : run s [.dropUnique t id, .step t] =
      setThr (destroy (withUniques s (s.uniques.erase id)) id) t (.uRelease id) := by
    simp only [run_cons, run_nil]; rw [e1, step_uDestroy_eq]
  rw [dropUnique_complete s t id ht hm, e1, e2]
  simp [dealloc]

/-- FIFO reuse: a thread allocating alone gets the last id of the free list after exactly the ids queued before it -/
theorem c13_reuse (s : St) (t id : Nat) (l vs : List Nat) (v : Nat) (ht : s.thr t = .idle) (hf : s.free = l ++ [id])
    (hl : vs.length = l.length) :
    (apply (run s (vs.flatMap fun w => [Act.newUnique t w, Act.ack t])) (.newUnique t v)).thr t = .done (.unique id) ∧
    (run s (vs.flatMap fun w => [Act.newUnique t w, Act.ack t])).uniques = l.reverse ++ s.uniques := by
  obtain ⟨h1, h2, h3⟩ := solo_allocs t vs s l [id] ht hf hl
  refine ⟨?_, h3⟩
  rw [newUnique_eq v h1 h2]; simp

/-- both together: drop a unique handle, then allocate alone — the id comes back after the ids queued before it -/
theorem c13_reuse_after_drop (s : St) (t id : Nat) (vs : List Nat) (v : Nat) (ht : s.thr t = .idle)
    (hm : id ∈ s.uniques) (hl : vs.length = s.free.length) :
    (apply (run (run s [.dropUnique t id, .step t, .step t, .ack t])
      (vs.flatMap fun w => [Act.newUnique t w, Act.ack t])) (.newUnique t v)).thr t = .done (.unique id) := by
  have e : run s [.dropUnique t id, .step t, .step t, .ack t] =
      run (run s [.dropUnique t id, .step t, .step t]) [.ack t] := run_append s [_, _, _] [_]
  rw [e, dropUnique_complete s t id ht hm, run_cons, run_nil, ack_done]
  exact (c13_reuse _ t id s.free vs v (by simp) (by simp [dealloc]) hl).1

-- `ref_from_id` and `id_from_ref` of `ogre_array_pool_allocator.rs` as address arithmetic: `base` is the address of
-- `pool[0]`, `size` is `size_of::<DataType>()`; `get_unchecked_mut(id)` is `base + id * size`, `offset_from(pool[0])`
-- the division.  Left out: `ref_from_id` reduces the id `% POOL_SIZE` first.
/-- slot reference ↔ slot id (`base + id * size`, `(ref - base) / size`) -/
def refOf (base size id : Nat) : Nat := base + id * size
def idOf (base size r : Nat) : Nat := (r - base) / size

theorem c13_id_ref_bijection (base size : Nat) (hs : size > 0) :
    (∀ id, idOf base size (refOf base size id) = id) ∧
    (∀ id1 id2, refOf base size id1 = refOf base size id2 → id1 = id2) ∧
    (∀ id k, k < size → idOf base size (refOf base size id + k) = id) := by
  refine ⟨fun id => ?_, fun id1 id2 h => ?_, fun id k hk => ?_⟩
  · simp [idOf, refOf, Nat.mul_div_cancel _ hs]
  · simp only [refOf] at h
    exact Nat.eq_of_mul_eq_mul_right hs (Nat.add_left_cancel h)
  · simp only [idOf, refOf]
    rw [show base + id * size + k - base = k + size * id by rw [Nat.mul_comm]; omega,
      Nat.add_mul_div_left _ _ hs, Nat.div_eq_of_lt hk]; omega

/-! ## non-vacuity -/

/-- pool of 2 exhausted by one shared and one unique owner; the third allocation answers `none`; after a `dealloc`
    the slot comes back -/
example : let s := run (init 2) [.newArc 0 7 1, .ack 0, .newUnique 0 8, .ack 0, .newUnique 1 9]
    Reachable 2 s ∧ s.free = [] ∧ s.uniques = [1] ∧ s.thr 1 = .done .none ∧ (getCB s 0).id = 0 :=
  ⟨⟨_, rfl⟩, by decide, by decide, by decide, by decide⟩

example : let s := run (init 2) [.newArc 0 7 1, .ack 0, .newUnique 0 8, .ack 0, .dropUnique 0 1, .step 0, .step 0, .ack 0,
      .newUnique 1 9]
    s.thr 1 = .done (.unique 1) ∧ s.slot 1 = 9 ∧ s.dropLog = [(1, 2, 8)] := by decide

/-- while the destructor of slot 1 is running (or the push is pending) the pool still answers `none` -/
example : let s := run (init 2) [.newArc 0 7 1, .ack 0, .newUnique 0 8, .ack 0, .dropUnique 0 1, .newUnique 1 9]
    s.thr 0 = .uDestroy 1 ∧ s.thr 1 = .done .none ∧ s.slot 1 = 8 := by decide
example : let s := run (init 2) [.newArc 0 7 1, .ack 0, .newUnique 0 8, .ack 0, .dropUnique 0 1, .step 0, .newUnique 1 9]
    s.thr 0 = .uRelease 1 ∧ s.thr 1 = .done .none ∧ s.slot 1 = 8 ∧ s.dropLog = [(1, 2, 8)] := by decide

/-- FIFO: free list `[1, 0]` after two deallocations, then ids come back as 1, 0 -/
example : let s := run (init 2) [.newUnique 0 5, .ack 0, .newUnique 0 6, .ack 0, .dropUnique 0 1, .step 0, .step 0, .ack 0,
      .dropUnique 0 0, .step 0, .step 0, .ack 0]
    s.free = [1, 0] ∧ (apply (run s [.newUnique 0 1, .ack 0]) (.newUnique 0 2)).thr 0 = .done (.unique 0) := by decide

#print axioms c13_exclusive
#print axioms c13_exclusive_arc
#print axioms c13_bound
#print axioms c13_at_most_N
#print axioms c13_exhaustion
#print axioms c13_dealloc_room
#print axioms c13_dealloc_room_at_push
#print axioms c13_dealloc_frees
#print axioms c13_reuse
#print axioms c13_reuse_after_drop
#print axioms c13_id_ref_bijection

end Mutiny.Handles
