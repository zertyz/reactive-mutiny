import Mutiny.Proofs.RingProps

/-!
# C16 — a rejected `send` is prompt and changes nothing; capacity comes back as soon as room is made

Scope: every `n > 0`, every `s` with `ReachableX n s` (see `Props/C02.lean`; C16 does not talk about the index-based cancel).
A state is *quiescent* when every thread is `idle` (no call in progress, no reservation outstanding).
`sendSolo t v = [send t v, step t ×5]` (claim, load `head`, write, publish, load `head` again for the length),
`recvSolo t = [recv t, step t ×4]`.
-/

namespace Mutiny.Ring

variable {n : Nat} {s : St}

/-- in a quiescent state the private claim counters coincide with the public ones: no claim is leaked by any earlier
    call — accepted, rejected, or answered `empty` -/
theorem c16_quiescent (hn : 0 < n) (hr : ReachableX n s) (hid : ∀ t, s.thr t = .idle) :
    s.enqTail = s.tail ∧ s.deqHead = s.head :=
  quiescent_counters (reachable_inv hn hr) hid

/-- a solo `send` from a quiescent state: accepted iff there is room; if the ring is full it is rejected after 3 own
    steps (the other two are no-ops) and *nothing* has changed, so the state is again one to which this theorem applies: a
    retry after room was made succeeds -/
theorem c16_solo_send (hn : 0 < n) (hr : ReachableX n s) (t v : Nat)
    (hothers : ∀ u, u ≠ t → s.thr u = .idle) (ht : s.thr t = .idle) :
    let s' := run s [.send t v, .step t, .step t, .step t, .step t, .step t]
    ((abs s).length < s.N →
        s'.thr t = .done (.sent ((abs s).length + 1)) ∧ abs s' = abs s ++ [v]) ∧
    ((abs s).length = s.N →
        s'.thr t = .done .full ∧ run s [.send t v, .step t, .step t, .step t] = s' ∧
        abs s' = abs s ∧ s'.buf = s.buf ∧ s'.tail = s.tail ∧ s'.head = s.head ∧ s'.enqTail = s.enqTail ∧
        s'.deqHead = s.deqHead ∧ s'.accepted = s.accepted ∧ s'.delivered = s.delivered) ∧
    (∀ u, u ≠ t → s'.thr u = .idle) ∧ ReachableX n s' ∧ ReachableX n (apply s' (.ack t)) ∧
    (∀ u, (apply s' (.ack t)).thr u = .idle) := by
  intro s'
  have hid := idle_all hothers ht
  have hi := reachable_inv hn hr
  have he := (quiescent_counters hi hid).1
  have hlen := abs_length hi
  have := hi.hHT
  by_cases hroom : s.tail - s.head < s.N
  · have e := run_sendSolo_sent s t v ht he hroom
    rw [show s' = _ from e]
    exact ⟨fun _ => ⟨by rw [thr_setThr_self, hlen]; congr 2; omega, abs_enq hi⟩, fun hf => by omega,
      reachableX_solo hr hid (noCancel_sendSolo t v) e rfl⟩
  · have ⟨e5, e3⟩ := run_sendSolo_full s t v ht he hroom
    rw [show s' = _ from e5]
    exact ⟨fun hf => by omega, fun _ => ⟨thr_setThr_self .., e3, rfl, rfl, rfl, rfl, rfl, rfl, rfl, rfl⟩,
      reachableX_solo hr hid (noCancel_sendSolo t v) e5 rfl⟩

/-- a solo `recv` from a quiescent state returns the front element if there is one (4 own steps), and `empty` with
    nothing changed otherwise (5 own steps) -/
theorem c16_solo_recv (hn : 0 < n) (hr : ReachableX n s) (t : Nat)
    (hothers : ∀ u, u ≠ t → s.thr u = .idle) (ht : s.thr t = .idle) :
    (∀ x rest, abs s = x :: rest →
        let s' := run s [.recv t, .step t, .step t, .step t, .step t]
        s'.thr t = .done (.got x) ∧ abs s' = rest ∧ s'.enqTail = s.enqTail ∧ s'.tail = s.tail ∧
        (∀ u, u ≠ t → s'.thr u = .idle) ∧ ReachableX n s') ∧
    (abs s = [] →
        let s' := run s [.recv t, .step t, .step t, .step t, .step t, .step t]
        s'.thr t = .done .empty ∧ abs s' = [] ∧ s'.buf = s.buf ∧ s'.tail = s.tail ∧ s'.head = s.head ∧
        s'.enqTail = s.enqTail ∧ s'.deqHead = s.deqHead ∧ s'.accepted = s.accepted ∧ s'.delivered = s.delivered ∧
        (∀ u, u ≠ t → s'.thr u = .idle) ∧ ReachableX n s') := by
  have hid := idle_all hothers ht
  have hi := reachable_inv hn hr
  have hd := (quiescent_counters hi hid).2
  constructor
  · intro x rest hx s'
    obtain ⟨hne, rfl⟩ := abs_cons hi hx
    have e := run_recvSolo_got s t ht hd hne
    have c := reachableX_solo hr hid (by intro u; simp [recvSolo]) e rfl
    rw [show s' = _ from e]
    exact ⟨by simp, abs_deq hx, rfl, rfl, c.1, c.2.1⟩
  · intro hemp s'
    have e := run_recvSolo_empty s t ht hd ((abs_eq_nil_iff hi).mp hemp)
    have c := reachableX_solo hr hid (by intro u; simp [recvSolo]) e rfl
    rw [show s' = _ from e]
    exact ⟨by simp, hemp, rfl, rfl, rfl, rfl, rfl, rfl, rfl, c.1, c.2.1⟩

/-- fill & drain: from an empty quiescent state, `k ≤ N` consecutive solo sends (`send; step ×5; ack` each, performed by
    `fillSolo`) are all accepted — the i-th one reports length `i` — the queue then holds exactly these values in order,
    the state is quiescent again; and if `k = N` the next send is rejected with the content unchanged. -/
theorem c16_fill_drain (hn : 0 < n) (hr : ReachableX n s) (t : Nat) (hid : ∀ u, s.thr u = .idle) (hemp : abs s = [])
    (vs : List Nat) (hk : vs.length ≤ s.N) :
    (fillSolo t s vs).2 = (List.range' 1 vs.length).map (fun l => Loc.done (.sent l)) ∧
    abs (fillSolo t s vs).1 = vs ∧ (∀ u, (fillSolo t s vs).1.thr u = .idle) ∧ ReachableX n (fillSolo t s vs).1 ∧
    (vs.length = s.N → ∀ w,
        (run (fillSolo t s vs).1 (sendSolo t w)).thr t = .done .full ∧
        abs (run (fillSolo t s vs).1 (sendSolo t w)) = vs) := by
  obtain ⟨h1, h2, h3, h4, h5⟩ := fillSolo_spec hn t vs s hr hid (by rw [hemp]; simpa using hk)
  rw [hemp] at h1 h2
  have h2 : abs (fillSolo t s vs).1 = vs := by simpa using h2
  refine ⟨by simpa using h1, h2, h3, h4, fun hfull w => ?_⟩
  obtain ⟨hfl, -, habs, -⟩ := (c16_solo_send hn h4 t w (fun u _ => h3 u) (h3 t)).2.1 (by rw [h2, h5]; exact hfull)
  exact ⟨hfl, habs.trans h2⟩

/-! ## non-vacuity -/

/-- fill a ring of size 2, the third send is rejected, one `recv` makes room, the retry succeeds -/
example : let r := fillSolo 0 (init 2) [5, 6]
    ReachableX 2 (init 2) ∧ abs (init 2) = [] ∧
    r.2 = [.done (.sent 1), .done (.sent 2)] ∧ abs r.1 = [5, 6] ∧
    (run r.1 (sendSolo 0 7)).thr 0 = .done .full ∧
    (let s2 := run r.1 (sendSolo 0 7 ++ [.ack 0] ++ recvSolo 1 ++ [.ack 1] ++ sendSolo 0 7)
     s2.thr 0 = .done (.sent 2) ∧ abs s2 = [6, 7]) :=
  ⟨ReachableX.init 2, rfl, by decide, by decide, by decide, by decide⟩

#print axioms c16_quiescent
#print axioms c16_solo_send
#print axioms c16_solo_recv
#print axioms c16_fill_drain

end Mutiny.Ring
