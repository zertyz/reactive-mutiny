import Mutiny.Proofs.LockRingProps

/-!
# C01 on the `LockRing` model (`FullSyncMove`): no loss, no duplication, no invention

`accepted` is the ghost list of every value whose `send` passed its `pPublish` step (index = sequence number);
`delivered` is the ghost list of `(consumer, sequence number, value)` appended at every `cRelease` step.
Theorems without a `Reachable` hypothesis hold in *every* state.
-/

namespace Mutiny.LockRing

/-- No duplication: every sequence number is delivered at most once. -/
theorem c01_delivered_distinct {n : Nat} {s : St} (hn : 0 < n) (h : Reachable n s) :
    (s.delivered.map (·.2.1)).Nodup :=
  (reachable_inv hn h).delIdx ▸ List.nodup_range

/-- No invention / no corruption: a delivered `(t, k, v)` is the `k`-th accepted value. -/
theorem c01_delivered_was_accepted {n : Nat} {s : St} (hn : 0 < n) (h : Reachable n s) {t k v : Nat}
    (hm : (t, k, v) ∈ s.delivered) : s.accepted[k]? = some v :=
  ((reachable_inv hn h).data.mem_del hm).2

/-- No loss: every accepted sequence number was either delivered or still sits in its slot of the buffer. -/
theorem c01_no_loss {n : Nat} {s : St} (hn : 0 < n) (h : Reachable n s) :
    ∀ k, k < s.tail →
      (∃ t v, (t, k, v) ∈ s.delivered) ∨ (s.head ≤ k ∧ s.accepted[k]? = some (s.buf (k % s.N))) :=
  fun _ hk => (reachable_inv hn h).data.no_loss hk

/-- Every accepted value has a sequence number below `tail` (so `c01_no_loss` covers all of `accepted`). -/
theorem c01_accepted_length {n : Nat} {s : St} (hn : 0 < n) (h : Reachable n s) :
    s.accepted.length = s.tail :=
  (reachable_inv hn h).accLen

/-- `accepted` only grows, and only at the `pPublish` step, by the value being sent (any state). -/
theorem c01_accept_only_by_publish (s : St) (t : Nat) :
    (step s t).accepted = s.accepted
    ∨ (∃ v len, s.thr t = .pPublish v len ∧ (step s t).accepted = s.accepted ++ [v]) := by
  cases ht : s.thr t with
  | pPublish v len => exact .inr ⟨v, len, rfl, by rw [step_pPublish ht]; rfl⟩
  | pWrite v len => left; rw [step_pWrite ht]; rfl
  | cRelease v => left; rw [step_cRelease ht]; rfl
  | _ => exact .inl (SameRing.of_eq (ring_step s ht id)).accepted

/-- A `send` on its way to the `full` exit (or still waiting for the flag) touches nothing of the ring (any state). -/
theorem c01_reject_untouched (s : St) (t : Nat)
    (ht : (∃ v, s.thr t = .pLock v) ∨ (∃ v, s.thr t = .pSpin v) ∨ (∃ v, s.thr t = .pCheck v)
          ∨ s.thr t = .pFullUnlocked) :
    (step s t).buf = s.buf ∧ (step s t).accepted = s.accepted ∧ (step s t).tail = s.tail
    ∧ (step s t).head = s.head ∧ (step s t).delivered = s.delivered := by
  have e : SameRing s (step s t) := by
    rcases ht with ⟨v, h⟩ | ⟨v, h⟩ | ⟨v, h⟩ | h <;> exact .of_eq (ring_step s h id)
  exact ⟨e.buf, e.accepted, e.tail, e.head, e.delivered⟩

/-! ## non-vacuity -/

/-- Capacity 2, three sends and two receives by different threads: slot reuse (`k = 2` lands in slot 0), one element
delivered twice is impossible, the third is still buffered. -/
example :
    let s := run (init 2) [.send 0 7, .step 0, .step 0, .step 0, .step 0, .step 0, .ack 0,
                           .send 0 8, .step 0, .step 0, .step 0, .step 0, .step 0, .ack 0,
                           .recv 1, .step 1, .step 1, .step 1, .step 1, .step 1, .step 1, .ack 1,
                           .send 0 9, .step 0, .step 0, .step 0, .step 0, .step 0, .ack 0,
                           .recv 2, .step 2, .step 2, .step 2, .step 2, .step 2, .step 2]
    Reachable 2 s ∧ s.delivered = [(1, 0, 7), (2, 1, 8)] ∧ s.accepted = [7, 8, 9] ∧ s.tail = 3 ∧ s.head = 2
      ∧ s.buf (2 % s.N) = 9 ∧ s.thr 2 = .done (.got 8) := by
  refine ⟨⟨_, rfl⟩, ?_⟩; decide

/-- A rejected `send` (ring full) on each of the four program points of `c01_reject_untouched`. -/
example :
    let s := run (init 1) [.send 0 7, .step 0, .step 0, .step 0, .step 0, .step 0, .ack 0, .send 1 8]
    Reachable 1 s ∧ s.thr 1 = .pLock 8 ∧ (step s 1).thr 1 = .pCheck 8
      ∧ (step (step s 1) 1).thr 1 = .pFullUnlocked ∧ (step (step (step s 1) 1) 1).thr 1 = .done .full := by
  refine ⟨⟨_, rfl⟩, ?_⟩; decide

#print axioms c01_delivered_distinct
#print axioms c01_delivered_was_accepted
#print axioms c01_no_loss
#print axioms c01_accepted_length
#print axioms c01_accept_only_by_publish
#print axioms c01_reject_untouched

end Mutiny.LockRing
