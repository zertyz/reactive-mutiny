import Mutiny.Proofs.CancelAllLockInv

/-!
# C07 — `cancel_all_streams()` as repaired: the walk holds `streams_lock` (finding D11 fixed)

`Mutiny/Model/CancelAllLock.lean`: the walker of `cancel_all_streams()` on top of the stream-id bookkeeping of model M6, with
ANY number of other threads creating / removing listeners, sending and polling meanwhile, under ANY schedule.  The lock
discipline `Inv` and the invariant of the walk are in `Proofs/CancelAllLockInv.lean`; the unlocked walk of the pinned crate
and its counterexample stay in `Props/C07_CancelAll.lean`.
-/

namespace Mutiny.CancelAllLock

theorem run_append (s : St) (as bs : List Act) : run s (as ++ bs) = run (run s as) bs := by
  simp [run, List.foldl_append]

theorem inv_run (s : St) (as : List Act) (h : Inv s) : Inv (run s as) :=
  List.foldlRecOn as apply h fun s hs a _ => inv_apply s a hs

/-- **C07, `cancel_all_streams()` as repaired, every interleaving.**  From any state in which the lock discipline holds and the
    walker has not started, for every sequence of actions of the walker and of any number of threads that create and remove
    listeners, send and poll: if the walk has finished, the streams it told to end are exactly the entries `used_streams` held —
    up to the sentinel — at the instant the walker took the lock (`seen`), each once, in list order. -/
theorem c07_cancel_all_locked (s : St) (h : Inv s) (hw : s.w = .idle) (as : List Act) (hd : (run s as).w = .done) :
    (run s as).cancelled = s.cancelled ++ walkFrom (run s as).seen s.m.MAX 0 := by
  have := walk_run as h (c₀ := s.cancelled) (by unfold Walk; rw [hw]; rfl)
  simpa only [Walk, hd, tookLock, if_true, todo, List.append_nil, run_MAX] using this

/-- every reachable state of the model satisfies the lock discipline -/
theorem inv_reachable (mx : Nat) (as : List Act) : Inv (run (init mx) as) := inv_run _ as (inv_init mx)

/-- **progress.**  Once the walker holds the lock, `2·k + 2` own steps finish the walk (`k` = streams still listed in front of it), WHATEVER the
    other threads do in between and however their actions are interleaved with its steps: nobody can make it wait, spin or start over. -/
theorem c07_cancel_all_locked_progress (as : List Act) : ∀ (s : St), Inv s → (active s.w ∨ s.w = .done) → mu s ≤ wsteps as →
    (run s as).w = .done := fun s h ha hm =>
  have k := keeps_run as s h ha
  k.took.resolve_left fun ha' => Nat.ne_of_gt (mu_pos ha') (k.mu.trans (Nat.sub_eq_zero_of_le hm))

/-! ## the D11 schedule on the repaired walk -/

/-- as `CancelAll.createActs` -/
def createActs (t : Nat) : List Act := [.multi (.create t)] ++ List.replicate 9 (.multi (.step t)) ++ [.multi (.ack t)]

/-- the schedule of `c07_cancel_all_race_counterexample`: three listeners (ids 0, 1, 2; `MAX_STREAMS = 4`); the walk starts and
    tells stream 0 to end; listener 0 is removed meanwhile — its list rebuild now WAITS at `sm.sync.lock` -/
def raceSchedule : List Act :=
  createActs 0 ++ createActs 0 ++ createActs 0 ++
  [.cancelAll, .wstep, .wstep, .wstep,                            -- lock taken; entry 0 read (= 0): stream 0 told to end
   .multi (.drop 20 0), .multi (.step 20), .multi (.step 20), .multi (.step 20), .multi (.step 20), .multi (.step 20),
   .multi (.step 20),                                             -- the removal spins at the lock: the list stays [0,1,2,–]
   .wstep, .wstep,                                                -- entry 1 read (= 1): stream 1 told to end
   .multi (.step 20), .multi (.step 20), .multi (.step 20),
   .wstep, .wstep, .wstep, .wstep,                                -- entry 2, the sentinel, the unlock
   .multi (.step 20), .multi (.step 20), .multi (.step 20), .multi (.step 20), .multi (.step 20), .multi (.step 20)]

/-- the D11 schedule on the repaired walk: the removal waits at `sm.sync.lock` until the walker is done, all three streams
    are told to end -/
theorem c07_d11_schedule_repaired :
    let s := run (init 4) raceSchedule
    s.w = .done ∧ s.m.thr 20 = .done .unit ∧ s.m.live = [1, 2] ∧ s.m.used = [1, 2, 4, 4] ∧ s.seen = [0, 1, 2, 4] ∧
      s.cancelled = [0, 1, 2] ∧ s.m.keep 1 = false ∧ s.m.keep 2 = false ∧ s.m.slock = false := by decide

/-- non-vacuity of `c07_cancel_all_locked`: a reachable state (three listeners, one removal in progress inside its list rebuild)
    satisfies its hypotheses, and the walker does get the lock and finish afterwards -/
example : let s := run (init 4) (createActs 0 ++ createActs 0 ++ createActs 0 ++
      [.multi (.drop 20 1)] ++ List.replicate 5 (.multi (.step 20)))
    s.w = .idle ∧ s.m.slock = true ∧ s.m.used = [0, 1, 2, 4] ∧
    (let s' := run s ([.cancelAll, .wstep] ++ List.replicate 4 (.multi (.step 20)) ++ List.replicate 7 .wstep)
     s'.w = .done ∧ s'.seen = [0, 2, 4, 4] ∧ s'.cancelled = [0, 2]) := by
  decide

/-- non-vacuity of `c07_cancel_all_locked_progress`: three listeners, the walker has just taken the lock (`mu = 8`); a removal and a creation by
    other threads are interleaved with its eight steps (both wait at `sm.sync.lock`): the walk is done -/
example : let s := run (init 4) (createActs 0 ++ createActs 0 ++ createActs 0 ++ [.cancelAll, .wstep])
    active s.w ∧ mu s = 8 ∧
    (run s [.multi (.drop 20 0), .wstep, .multi (.step 20), .wstep, .multi (.step 20), .multi (.create 21), .wstep, .multi (.step 21), .wstep,
            .multi (.step 20), .wstep, .multi (.step 20), .wstep, .multi (.step 21), .wstep, .wstep]).w = .done := by
  refine ⟨trivial, by decide, by decide⟩

#print axioms inv_run
#print axioms c07_cancel_all_locked
#print axioms c07_cancel_all_locked_progress
#print axioms c07_d11_schedule_repaired

end Mutiny.CancelAllLock
