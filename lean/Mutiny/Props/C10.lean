import Mutiny.Proofs.MultiSeq

/-!
# C10 — stream-id bookkeeping of `StreamsManagerBase` under sequential use

Model M6 + M7 (`Mutiny/Model/Multi.lean`).  A *completed operation* is one call run to completion on one thread with
nobody interleaving: `opCreate t s = run s ([.create t] ++ replicate (MAX + 6) (.step t) ++ [.ack t])`
(`opCreate_eq_run`; the longest call takes `MAX + 5` steps, further `.step`s of a `done` thread are no-ops); `callCreate`
is the same without the final `.ack`, so that the answer `thr t = .done r` is still visible.  Likewise `opDrop`, `opSend`,
`opPoll`.  A *sequential history* is a list of `Op`s executed by `exec` (all on thread 0) from `init mx n f d`; it is
`Legal` when `create` is only called with a free id left (`live.length < MAX` — the source panics otherwise) and `drop id`
/ `cancel id` only for live `id`.  `Op.cancel id` is `cancel_stream(id)` (`keep id := false`, immediate): a listener may be
cancelled at any time before it is dropped, and may still be polled afterwards.  Every state reached by a sequential
history is a reachable state of the model (`reachable_exec`).

Scope: every `MAX`, every pool size `N`, both fan-out flavours, every legal history of any length.
`c10_fresh_queue` / `c10_lifetime` need `drains = true` (the repaired source); with `drains = false` (the pinned source)
they fail: `c10_stale_counterexample`.
-/

namespace Mutiny.Multi

/-- **C10 (bookkeeping).**  After every legal sequential history the manager is quiescent and well-formed (`WF`: all
    threads idle, lock free, `live`/`vacant` duplicate-free and partitioning `0..MAX-1`, `count = live.length`,
    `used` = the live ids ascending then sentinels; nothing is claimed about `keep` of a live id: it may have been
    cancelled); `count = live.length ≤ MAX`;
    ids are never exhausted by churn (`create` with `live.length < MAX` finds `vacant ≠ []`, is never stuck at `cVacant`,
    answers the head `j` of `vacant`, which was not live, and `live' = live ++ [j]`); `drop` of a live id completes and
    makes the id vacant again. -/
theorem c10_bookkeeping (mx n : Nat) (f : Flavor) (d : Bool) (h : List Op) (hl : LegalH (init mx n f d) h) :
    let s := exec (init mx n f d) h
    Reachable mx n f d s ∧ WF s ∧ s.MAX = mx ∧ s.count = s.live.length ∧ s.count ≤ mx ∧
      s.vacant.length + s.live.length = mx ∧
      (s.live.length < mx → ∃ j rest, s.vacant = j :: rest ∧ j ∉ s.live ∧ j < mx ∧
          (callCreate 0 s).thr 0 = .done (.id j) ∧ (opCreate 0 s).live = s.live ++ [j] ∧
          (opCreate 0 s).vacant = rest ∧ (opCreate 0 s).keep j = true) ∧
      (∀ id ∈ s.live, (callDrop 0 id s).thr 0 = .done .unit ∧ id ∈ (opDrop 0 id s).vacant ∧
          id ∉ (opDrop 0 id s).live ∧ (opDrop 0 id s).live = s.live.erase id) := by
  intro s
  have hw : WF s := wf_exec wf_init hl
  have hm : s.MAX = mx := exec_MAX _ h
  refine ⟨reachable_exec mx n f d h, hw, hm, hw.countEq, hm ▸ hw.count_le, hm ▸ hw.lenSum, ?_, ?_⟩
  · intro hlen
    obtain ⟨j, rest, hv, hj, hjm, hc, he⟩ := hw.opCreate_spec 0 (hm ▸ hlen)
    rw [hc, he]
    exact ⟨j, rest, hv, hj, hm ▸ hjm, thr_setThr_self .., rfl, rfl, if_pos rfl⟩
  · intro id hid
    obtain ⟨hc, he⟩ := hw.opDrop_spec 0 hid
    rw [hc, he]
    exact ⟨thr_setThr_self .., by simp [specDrop], hw.not_mem_erase id, rfl⟩

/-- the same facts for one `create` / `drop` on any thread `t` in any `WF` state (e.g. one produced by a set-up) -/
theorem c10_create_of_wf (s : St) (t : Nat) (hw : WF s) (hlen : s.live.length < s.MAX) :
    ∃ j rest, s.vacant = j :: rest ∧ j ∉ s.live ∧ j < s.MAX ∧ (callCreate t s).thr t = .done (.id j) ∧
      (opCreate t s).live = s.live ++ [j] ∧ (opCreate t s).vacant = rest ∧ WF (opCreate t s) := by
  obtain ⟨j, rest, hv, hj, hjm, hc, he⟩ := hw.opCreate_spec t hlen
  rw [hc, he]
  exact ⟨j, rest, hv, hj, hjm, thr_setThr_self .., rfl, rfl, wf_specCreate hw hv⟩

theorem c10_drop_of_wf (s : St) (t id : Nat) (hw : WF s) (hid : id ∈ s.live) :
    (callDrop t id s).thr t = .done .unit ∧ id ∈ (opDrop t id s).vacant ∧ id ∉ (opDrop t id s).live ∧
      WF (opDrop t id s) := by
  obtain ⟨hc, he⟩ := hw.opDrop_spec t hid
  rw [hc, he]
  exact ⟨thr_setThr_self .., by simp [specDrop], hw.not_mem_erase id, wf_specDrop hw hid⟩

/-- **C10 (fresh queue).**  With the repaired `drop_resources` (`drains = true`): after every legal sequential history
    every vacant id has an empty queue, hence a listener handed out by `create` starts with an empty queue. -/
theorem c10_fresh_queue (mx n : Nat) (f : Flavor) (h : List Op) (hl : LegalH (init mx n f true) h) :
    let s := exec (init mx n f true) h
    (∀ i ∈ s.vacant, s.queues i = []) ∧
      (∀ j, (callCreate 0 s).thr 0 = .done (.id j) → s.live.length < mx → (opCreate 0 s).queues j = []) := by
  intro s
  have hw : WF s := wf_exec wf_init hl
  have hm : s.MAX = mx := exec_MAX _ h
  have hf : Fresh s := fresh_exec wf_init rfl fresh_init hl
  refine ⟨hf, ?_⟩
  intro j hj hlen
  obtain ⟨j', rest, hv, _, _, hc, he⟩ := hw.opCreate_spec 0 (hm ▸ hlen)
  simp only [hc, thr_setThr_self, Loc.done.injEq, Res.id.injEq] at hj
  subst hj
  rw [he]
  exact hf j' (by simp [hv])

/-- **C10 (a cancelled listener is drained like any other).**  `drains = true`: `drop id` empties the queue of `id`
    whatever `keep id` is — in particular for a listener that was cancelled (`keep id = false`) with events still queued
    — gives the payload references of the dropped copies back, and makes the id vacant; so the next owner of the id
    starts with an empty queue (`c10_fresh_queue`, which holds for histories with `cancel`). -/
theorem c10_cancelled_drop_drains (s : St) (t id : Nat) (hw : WF s) (hd : s.drains = true) (hid : id ∈ s.live) :
    let sc := apply s (.cancel id)
    sc.keep id = false ∧ sc.queues id = s.queues id ∧ WF sc ∧
      (opDrop t id sc).queues id = [] ∧ id ∈ (opDrop t id sc).vacant ∧ id ∉ (opDrop t id sc).live ∧
      (∀ e, (opDrop t id sc).refs e = s.refs e - (s.queues id).count e) ∧
      (opDrop t id s).queues id = [] := by
  intro sc
  have hwc : WF sc := wf_cancel hw
  have hdc : sc.drains = true := hd
  obtain ⟨_, he⟩ := hwc.opDrop_spec t (hid : id ∈ sc.live)
  obtain ⟨_, he'⟩ := hw.opDrop_spec t hid
  exact ⟨by simp [sc, apply], rfl, hwc, by simp [he, specDrop, hdc], by simp [he, specDrop], he ▸ hwc.not_mem_erase id,
    fun e => by simp [he, specDrop, hdc]; rfl, by simp [he', specDrop, hd]⟩

/-- `create` does not touch any queue; `drop id` touches only the queue of `id` -/
theorem c10_queues_frame (s : St) (t : Nat) (hw : WF s) :
    (s.live.length < s.MAX → (opCreate t s).queues = s.queues) ∧
      (∀ id ∈ s.live, ∀ j, j ≠ id → (opDrop t id s).queues j = s.queues j) := by
  constructor
  · intro hlen
    obtain ⟨j, rest, _, _, _, _, he⟩ := hw.opCreate_spec t hlen
    rw [he]; rfl
  · intro id hid j hj
    simp only [(hw.opDrop_spec t hid).2, specDrop]
    split <;> simp [hj]

/-- **C10 (lifetime).**  `drains = true`.  Let `id` be the id answered by a `create` executed after the history `h₁`,
    `k` its incarnation number, and `h₂` any continuation that does not drop `id` (it may `cancel` it, and poll it
    afterwards).  Then: the new listener starts with an
    empty queue and nothing was ever delivered to incarnation `k` (or a later one) before; throughout `h₂` the id stays
    live with the same incarnation; and the events delivered to `(id, k)` followed by those still queued for `id` are
    exactly the events of the accepted `send` operations of `h₂`, in order, each once — so every `(id, k, ev) ∈ delivered`
    was published while incarnation `k` was live, nothing sent before the `create` is ever seen, and once `poll id`
    answers `none` everything sent so far has been delivered. -/
theorem c10_lifetime (mx n : Nat) (f : Flavor) (h₁ h₂ : List Op)
    (hl : LegalH (init mx n f true) (h₁ ++ [Op.create] ++ h₂)) :
    let s := exec (init mx n f true) h₁
    let s₁ := exec (init mx n f true) (h₁ ++ [Op.create])
    let s₂ := exec (init mx n f true) (h₁ ++ [Op.create] ++ h₂)
    ∀ id, (callCreate 0 s).thr 0 = .done (.id id) → Op.drop id ∉ h₂ →
      s₁.queues id = [] ∧ (∀ k', s₁.inc id ≤ k' → dlv s₁ id k' = []) ∧
      id ∈ s₂.live ∧ s₂.inc id = s₁.inc id ∧
      dlv s₂ id (s₁.inc id) ++ s₂.queues id = sendsIn s₁ h₂ ∧
      dlv s₂ id (s₁.inc id) <+: sendsIn s₁ h₂ ∧
      ((callPoll 0 id s₂).thr 0 = .done (.item none) → dlv s₂ id (s₁.inc id) = sendsIn s₁ h₂) := by
  -- `s` is `WF`, `Fresh` and `Stamped`; the `create` is `specCreate s j rest` with `j = id`, whence the facts about
  -- `s₁`; the rest is `acct_exec` from `s₁` along `h₂`, with `dlv s₁ j _ = []` and `s₁.queues j = []` put in
  intro s s₁ s₂ id hid hnd
  rw [legalH_append, legalH_append] at hl
  obtain ⟨⟨hl1, hlc, _⟩, hl2⟩ := hl
  have hw : WF s := wf_exec wf_init hl1
  have hf : Fresh s := fresh_exec wf_init rfl fresh_init hl1
  have hst : Stamped s := stamped_exec wf_init stamped_init hl1
  obtain ⟨j, rest, hv, _, _, hc, he⟩ := hw.opCreate_spec 0 hlc
  have hs1 : s₁ = specCreate s j rest := by simp only [s₁, s, exec_append]; exact he
  have hs2 : s₂ = exec s₁ h₂ := by simp only [s₂, s₁, exec_append]
  simp only [hc, thr_setThr_self, Loc.done.injEq, Res.id.injEq] at hid
  subst hid
  have hw1 : WF s₁ := hs1 ▸ wf_specCreate hw hv
  have hq1 : s₁.queues j = [] := by rw [hs1]; exact hf j (by simp [hv])
  have hinc : s₁.inc j = s.inc j + 1 := by rw [hs1]; exact if_pos rfl
  have hd1 : ∀ k', s₁.inc j ≤ k' → dlv s₁ j k' = [] := fun k' hk =>
    (show dlv s₁ j k' = dlv s j k' by rw [hs1]; rfl).trans (hst.dlv_nil (by omega))
  have hl1' : j ∈ s₁.live := by simp [hs1, specCreate]
  obtain ⟨a1, a2, a3⟩ := acct_exec hw1 hl1' hl2 hnd
  rw [hq1, hd1 _ (Nat.le_refl _)] at a3
  simp only [List.nil_append] at a3
  rw [← hs2] at a1 a2 a3
  refine ⟨hq1, hd1, a1, a2, a3, ⟨_, a3⟩, ?_⟩
  intro hp
  have hw2 : WF s₂ := hs2 ▸ wf_exec hw1 hl2
  simp only [(hw2.opPoll_spec 0 j).1, thr_setThr_self, Loc.done.injEq, Res.item.injEq, List.head?_eq_none_iff] at hp
  rw [← a3, hp, List.append_nil]

/-! ## non-vacuity -/

/-- a legal history with churn: ids are reused in FIFO order (`MAX = 2`) -/
def churnHist : List Op :=
  [.create, .create, .cancel 0, .drop 0, .create, .send 7, .cancel 1, .poll 0, .poll 1, .drop 1, .create]

example :
    LegalH (init 2 8 .arc true) churnHist ∧ (exec (init 2 8 .arc true) churnHist).live = [0, 1] ∧
      (exec (init 2 8 .arc true) churnHist).vacant = [] ∧ (exec (init 2 8 .arc true) churnHist).used = [0, 1] ∧
      (exec (init 2 8 .arc true) churnHist).delivered = [(0, 2, 7), (1, 1, 7)] := by
  decide

def lifeH₁ : List Op := [.create, .send 1, .drop 0]
def lifeH₂ : List Op := [.send 2, .cancel 0, .send 3, .poll 0]

/-- `c10_lifetime` is not vacuous: the second incarnation of id 0 receives exactly the events sent after its creation -/
example :
    let h₁ := lifeH₁
    let h₂ := lifeH₂
    LegalH (init 1 8 .ogreArc true) (h₁ ++ [Op.create] ++ h₂) ∧
      (callCreate 0 (exec (init 1 8 .ogreArc true) h₁)).thr 0 = .done (.id 0) ∧ Op.drop 0 ∉ h₂ ∧
      sendsIn (exec (init 1 8 .ogreArc true) (h₁ ++ [Op.create])) h₂ = [2, 3] ∧
      dlv (exec (init 1 8 .ogreArc true) (h₁ ++ [Op.create] ++ h₂)) 0 2 = [2] := by
  decide

/-! ## recorded finding: without the drain, a recycled id inherits the queue of its previous owner -/

/-- **finding (pinned `drop_resources`, `drains = false`).**  `MAX = 1`: create, send 1, send 2, drop 0, create, poll 0
    answers `item (some 1)` although event 1 was sent before the second listener existed; the delivery is stamped with
    incarnation 2 while the listener of incarnation 2 was created after both sends. -/
def staleHist : List Op := [.create, .send 1, .send 2, .drop 0, .create]

theorem c10_stale_counterexample :
    let s := exec (init 1 8 .arc false) staleHist
    LegalH (init 1 8 .arc false) staleHist ∧ s.live = [0] ∧ s.inc 0 = 2 ∧ s.sent = [1, 2] ∧
      (callPoll 0 0 s).thr 0 = .done (.item (some 1)) ∧ (opPoll 0 0 s).delivered = [(0, 2, 1)] ∧
      sendsIn s [Op.poll 0] = [] := by
  decide

/-- a `drop` that skipped the drain when the listener was told to end (excluded by `c10_cancelled_drop_drains`) would
    show on this history: the listener is cancelled with two events queued, dropped, and its id handed out again -/
def cancelHist : List Op := [.create, .send 1, .send 2, .cancel 0, .drop 0, .create]

example :
    LegalH (init 1 8 .ogreArc true) cancelHist ∧
      (exec (init 1 8 .ogreArc true) (cancelHist.take 4)).keep 0 = false ∧
      (exec (init 1 8 .ogreArc true) (cancelHist.take 4)).queues 0 = [1, 2] ∧
      (exec (init 1 8 .ogreArc true) (cancelHist.take 5)).queues 0 = [] ∧
      (exec (init 1 8 .ogreArc true) (cancelHist.take 5)).refs 1 = 0 ∧
      (callPoll 0 0 (exec (init 1 8 .ogreArc true) cancelHist)).thr 0 = .done (.item none) ∧
      (exec (init 1 8 .ogreArc true) cancelHist).keep 0 = true := by
  decide

/-- the same history with the drain: the recycled listener sees nothing -/
theorem c10_stale_fixed :
    let s := exec (init 1 8 .arc true) staleHist
    (callPoll 0 0 s).thr 0 = .done (.item none) ∧ (opPoll 0 0 s).delivered = [] := by
  decide

end Mutiny.Multi

#print axioms Mutiny.Multi.c10_bookkeeping
#print axioms Mutiny.Multi.c10_create_of_wf
#print axioms Mutiny.Multi.c10_drop_of_wf
#print axioms Mutiny.Multi.c10_fresh_queue
#print axioms Mutiny.Multi.c10_cancelled_drop_drains
#print axioms Mutiny.Multi.c10_queues_frame
#print axioms Mutiny.Multi.c10_lifetime
#print axioms Mutiny.Multi.c10_stale_counterexample
#print axioms Mutiny.Multi.c10_stale_fixed
