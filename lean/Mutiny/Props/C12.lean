import Mutiny.Proofs.ExecProps

/-!
# C12 — the close callback runs exactly once, after the last item; the executor status ends in an "ended" state; the
# Uni's latch fires the user callback exactly once; sequential transition between two executors

Model: `Mutiny/Model/Exec.lean` — the event machine (`callback` = `stream_ended_callback` of one `spawn_*executor`,
which runs after `for_each*` returned), `Status` / `finish` (`register_execution_finish`), `latch` / `latchFires`
(`latch_callback_1p`).
Scope: every configuration `c` (any limit, futures or not), every accepted log of any length.

Trusted, not proved here: `for_each{,_concurrent}` return only when the stream ended and every item future completed
(the guard of the `callback` step); the replay driver checks that the logs of the real runs are accepted.
-/

namespace Mutiny.Exec

/-- the close callback runs at most once: in every reachable state `callbacks ≤ 1`, an accepted log contains at most one
    `callback` event, and `callbacks` is exactly the number of `callback` events of the log -/
theorem c12_callback_once (c : Cfg) (es : List Ev) (s : St) (h : runEv c {} es = some s) :
    s.callbacks ≤ 1 ∧ es.count .callback ≤ 1 ∧ s.callbacks = es.count .callback := by
  have h1 := (inv_run h).cb
  have h2 := (ghost_run h).2.2.2
  simp only [Nat.zero_add] at h2
  exact ⟨h1, by omega, h2⟩

/-- the close callback runs after the last item: at the moment of the `callback` event the stream is dropped (so the
    streams were told to end: a close is under way or an end signal was given), no item future is in flight, and every
    event accepted before the close call is finished — for EVERY configuration, including `futures ∧ limit > 1` (compare
    C06 / D6: `close` may return earlier, the callback may not) -/
theorem c12_callback_once_after_last (c : Cfg) (es₁ es₂ : List Ev) (s : St)
    (h : runEv c {} (es₁ ++ [.callback] ++ es₂) = some s) :
    s.callbacks ≤ 1 ∧
    ∃ s1, runEv c {} es₁ = some s1 ∧ s1.dropped = true ∧ s1.cancelled = true ∧ (s1.closing = true ∨ s1.signalled = true) ∧
      s1.inflight = [] ∧ s1.callbacks = 0 ∧ ∀ i ∈ s1.beforeClose, i ∈ s1.finished := by
  refine ⟨(inv_run h).cb, ?_⟩
  obtain ⟨⟨s1, h1, hd, hi, hcb⟩, -, -⟩ := run_callback_split (by simpa using h)
  have hinv := inv_run h1
  exact ⟨s1, h1, hd, (hinv.drop hd).1, (hinv.canc (hinv.drop hd).1).1, hi, hcb, inv_dropped_idle hinv hd hi⟩

/-- after the `callback` no item is yielded, no item future finishes and no second callback runs: every
    `yielded` / `finished` event of an accepted log precedes its `callback` -/
theorem c12_nothing_after_callback (c : Cfg) (es₁ es₂ : List Ev) (s : St)
    (h : runEv c {} (es₁ ++ [.callback] ++ es₂) = some s) :
    ∀ e ∈ es₂, (∀ i, e ≠ .yielded i) ∧ (∀ i, e ≠ .finished i) ∧ e ≠ .callback :=
  (run_callback_split (by simpa using h)).2.2

/-- the same on the log alone: everything accepted before `closeCalled` has its processing completed before `callback` -/
theorem c12_callback_after_last_log (c : Cfg) (es₁ es₂ : List Ev)
    (h : accepts c (es₁ ++ [.callback] ++ es₂) = true) :
    ∀ i ∈ acceptedBeforeClose es₁, i ∈ processedIds c es₁ := by
  simp only [accepts, Option.isSome_iff_exists] at h
  obtain ⟨s, hs⟩ := h
  obtain ⟨-, s1, h1, -, -, -, -, -, hall⟩ := c12_callback_once_after_last c es₁ es₂ s hs
  obtain ⟨g1, g2, -⟩ := ghost_run h1
  rw [g1, g2] at hall
  simpa using hall

/-- `register_execution_finish`: defined exactly on `running` / `scheduledToFinish` (it spins otherwise), always ends
    in an ended status, and reports `programmaticallyEnded` iff the executor was scheduled to finish -/
theorem c12_status (st : Status) :
    ((finish st).isSome = true ↔ st = .running ∨ st = .scheduledToFinish) ∧
    (∀ st', finish st = some st' → isEnded st' = true ∧ (st' = .programmaticallyEnded ↔ st = .scheduledToFinish) ∧
      (st' = .streamEnded ↔ st = .running)) := by
  cases st <;> simp [finish, isEnded]

/-- REMARK (race, looked for on the real code by the harness): `report_scheduled_to_finish` is a plain `store`.  If it
    lands after `register_execution_finish` (`finish .running = some .streamEnded`), the status word is
    `scheduledToFinish` again: not an ended status, `register_execution_finish` will not run a second time, so it stays
    so for ever.  Three steps: `running` —finish→ `streamEnded` —store→ `scheduledToFinish`. -/
theorem c12_status_race_remark :
    -- intended order: store, then finish
    finish (reportScheduled .running) = some .programmaticallyEnded ∧
    -- racy order: finish, then the late store
    finish .running = some .streamEnded ∧ isEnded .streamEnded = true ∧
    (finish .running).map reportScheduled = some .scheduledToFinish ∧ isEnded .scheduledToFinish = false := by decide

/-- the Uni's user close callback (`latch_callback_1p(n, ..)`, `n = MAX_STREAMS` executors each calling the latch once):
    not fired before the `n`-th call, fired exactly once by the `n`-th call, never a second time -/
theorem c12_latch (n : Nat) (hn : 1 ≤ n) :
    latchFires n n = 1 ∧ (∀ k, k < n → latchFires n k = 0) ∧ (∀ k, n ≤ k → latchFires n k = 1) ∧
    -- the firing call is the `n`-th one (`k` calls were made before it):
    (∀ k, (latch (latchRemaining n k)).2 = true ↔ k + 1 = n) := by
  refine ⟨?_, fun k hk => ?_, fun k hk => ?_, fun k => ?_⟩
  · rw [latchFires_eq, if_pos ⟨hn, Nat.le_refl n⟩]
  · rw [latchFires_eq, if_neg (by omega)]
  · rw [latchFires_eq, if_pos ⟨hn, hk⟩]
  · simp only [latch, latchRemaining_eq, beq_iff_eq]; omega

/-- `latchFires` is the fold of `latch` it is meant to be (ties the two model functions together) -/
theorem c12_latch_fold (n k : Nat) :
    latchRemaining n 0 = n ∧ latchRemaining n (k + 1) = (latch (latchRemaining n k)).1 ∧
    latchFires n (k + 1) = (if (latch (latchRemaining n k)).2 then 1 else 0) + latchFires n k :=
  ⟨rfl, rfl, by simp only [latchFires, latch, latchRemaining_eq]⟩

/-- a latch of 0 never fires (in the model; `MAX_STREAMS ≥ 1` in the real code) -/
theorem c12_latch_zero (k : Nat) : latchFires 0 k = 0 := by
  rw [latchFires_eq, if_neg (by omega)]

/-- sequential transition (`Multi`: the executor of the new listeners is spawned inside the close callback of the old one).
    `comb` is a combined log of the two executors (`false` = old, `true` = new).  Hypotheses: the old executor's part
    of `comb` is accepted by the machine; position `kcb` holds the old executor's `callback`; every event of the new
    executor comes after it (this is what spawning inside the callback guarantees).  Then every processing step
    (`yielded` / `finished`) of an old item precedes every event of the new executor — in particular every old item is
    completely processed before any new item starts being processed. -/
theorem c12_sequential_transition (c : Cfg) (comb : List (Bool × Ev)) (kcb : Nat)
    (hacc : accepts c (proj false comb) = true)
    (hcb : comb[kcb]? = some (false, .callback))
    (hnew : ∀ k e, comb[k]? = some (true, e) → kcb < k) :
    ∀ j e k e', comb[j]? = some (false, e) → isProcessing e = true → comb[k]? = some (true, e') →
      j < kcb ∧ kcb < k := by
  intro j e k e' hj he hk
  refine ⟨?_, hnew k e' hk⟩
  obtain ⟨hlt, hget⟩ := List.getElem?_eq_some_iff.1 hcb
  have hsplit : comb = comb.take kcb ++ (false, Ev.callback) :: comb.drop (kcb + 1) := by
    rw [← hget, ← List.drop_eq_getElem_cons hlt, List.take_append_drop]
  rw [hsplit] at hacc
  have hpost := seq_split hacc
  rcases Nat.lt_trichotomy j kcb with h | h | h
  · exact h
  · subst h; rw [hcb] at hj; cases hj; cases he
  · exfalso
    have hmem : (false, e) ∈ comb.drop (kcb + 1) := by
      apply List.mem_of_getElem? (i := j - (kcb + 1))
      rw [List.getElem?_drop, ← hj]; congr 1; omega
    have := hpost e hmem
    rw [he] at this; cases this

/-! ### non-vacuity / sanity -/

-- a complete life cycle with one callback at the end is accepted (limit 2, futures): the callback waits for item 1
example : accepts { futures := true, limit := 2 }
    ([.accepted 1, .yielded 1, .closeCalled, .closeReturned, .finished 1] ++ [.callback] ++ [.accepted 2]) = true := by
  decide
-- the callback is refused while an item future is in flight, and refused a second time
example : accepts { futures := true, limit := 2 } [.accepted 1, .yielded 1, .closeCalled, .closeReturned, .callback]
    = false := by decide
example : accepts { futures := true, limit := 1 } [.closeCalled, .callback, .callback] = false := by decide
example : accepts { futures := true, limit := 1 } [.closeCalled, .callback] = true := by decide
-- latch of 3: fires at the third call only
example : (List.range 6).map (latchFires 3) = [0, 0, 0, 1, 1, 1] := by decide
-- `c12_sequential_transition`: hypotheses satisfiable, with old and new items
example :
    let comb : List (Bool × Ev) :=
      [(false, .accepted 1), (false, .yielded 1), (false, .closeCalled), (false, .finished 1), (false, .callback),
       (true, .accepted 7), (true, .yielded 7), (false, .closeReturned), (true, .finished 7)]
    accepts { futures := true, limit := 1 } (proj false comb) = true ∧ comb[4]? = some (false, .callback) ∧
    accepts { futures := true, limit := 1 } (proj true comb) = true := by decide

#print axioms c12_callback_once
#print axioms c12_callback_once_after_last
#print axioms c12_nothing_after_callback
#print axioms c12_callback_after_last_log
#print axioms c12_status
#print axioms c12_status_race_remark
#print axioms c12_latch
#print axioms c12_latch_fold
#print axioms c12_latch_zero
#print axioms c12_sequential_transition

end Mutiny.Exec
