import Mutiny.Generated.Tags
import Mutiny.Proofs.Grouped

/-!
# G2 — the inventory of scheduler yield points (`vp!` hook tags) of the current source

`tools/extract.py` lists every `vp!("tag", …)` line of `/repo/src`, per file (sorted), on every run (`Generated/Tags.lean`).  The replay driver compares
tags step by step, so a yield point that disappears from a modelled access sequence shows up as a diverging replay; what the replay cannot see is a hook
that silently disappears from (or is duplicated in) code that only the ORACLE-ONLY scenarios exercise, or whose removal merely coarsens the
interleavings the scheduler explores.  The obligations below pin the inventory: per source file, the multiset of tags is exactly the one the models,
the driver glue and the scenario filters were written against.  Adding a hook means adding it to `byFile` and to the obligation of its file (and
deciding which model step or absorbed step it is).
-/

namespace Mutiny.Generated

def tagsOf (file : String) : List String := (hookTags.filter (·.1 == file)).map (·.2)

/-- the inventory, one row per file; `hookTags` is its flat form (`hookTags_eq`) -/
def byFile : List (String × List String) := [
  ("src/incremental_averages.rs", ["ia.cas", "ia.load", "ia.probe"]),
  ("src/multi/channels/arc/atomic.rs", ["mc.drop.drain", "mc.fan.read"]),
  ("src/multi/channels/arc/crossbeam.rs", ["cb.len", "cb.recv", "cb.try", "mc.drop.drain", "mc.fan.read"]),
  ("src/multi/channels/arc/full_sync.rs", ["mc.drop.drain", "mc.fan.read"]),
  ("src/multi/channels/ogre_arc/atomic.rs", ["mc.drop.drain", "mc.fan.read"]),
  ("src/multi/channels/ogre_arc/full_sync.rs", ["mc.drop.drain", "mc.fan.read"]),
  ("src/mutiny_stream.rs", ["ms.drop", "ms.poll"]),
  ("src/ogre_std/ogre_alloc/ogre_arc.rs", ["oa.clone", "oa.count", "oa.drop.dealloc", "oa.drop.dec", "oa.drop.free", "oa.inc"]),
  ("src/ogre_std/ogre_alloc/ogre_array_pool_allocator.rs", ["pa.dealloc.drop", "pa.dealloc.free"]),
  ("src/ogre_std/ogre_queues/atomic/atomic_move.rs", ["am.c.chkhead", "am.c.chktail", "am.c.fetch", "am.c.fetch", "am.c.loadtail", "am.c.read", "am.c.recede", "am.c.release", "am.len", "am.len", "am.len.head", "am.p.fetch", "am.p.fetch", "am.p.len", "am.p.loadhead", "am.p.publish", "am.p.recede", "am.p.write", "am.p.write", "am.r.cancel", "am.r.len", "am.r.publish"]),
  ("src/ogre_std/ogre_queues/full_sync/full_sync_move.rs", ["fs.c.lock", "fs.c.read", "fs.c.release", "fs.len", "fs.len", "fs.len.head", "fs.p.check", "fs.p.lock", "fs.p.publish", "fs.p.unleak", "fs.p.write", "fs.p.write"]),
  ("src/ogre_std/ogre_queues/log_topics/mmap_meta.rs", ["mm.c.fetch", "mm.c.fetch", "mm.c.loadtail", "mm.c.read", "mm.c.read", "mm.c.recede", "mm.c.recede", "mm.p.fetch", "mm.p.publish", "mm.p.publish", "mm.p.write", "mm.s.load", "mm.s.load"]),
  ("src/ogre_std/ogre_stacks/non_blocking_atomic_stack.rs", ["st.crit", "st.crit", "st.swap", "st.swap", "st.unlock", "st.unlock", "st.unlock", "st.unlock"]),
  ("src/ogre_std/ogre_stacks/non_blocking_parking_lot_stack.rs", ["pl.op", "pl.op"]),
  ("src/ogre_std/ogre_sync.rs", ["sync.spin", "sync.unlocked"]),
  ("src/streams_manager.rs", ["sm.cancel", "sm.cancelall.lock", "sm.cancelall.read", "sm.cancelall.unlock", "sm.create.count", "sm.create.flag", "sm.create.vacant", "sm.drop.count", "sm.drop.lock", "sm.drop.vacant", "sm.drop.waker", "sm.flag", "sm.reg.cmp", "sm.reg.lock", "sm.reg.selfwake", "sm.reg.store", "sm.running", "sm.sync.lock", "sm.sync.peek", "sm.sync.sentinel", "sm.sync.write", "sm.sync.write", "sm.wake", "sm.wake.lock", "sm.wake.retry"]),
  ("src/uni/channels/movable/crossbeam.rs", ["cb.len", "cb.recv", "cb.try"])]

theorem hookTags_eq : hookTags = ungroup byFile := by simp [hookTags, byFile, ungroup]

theorem files_nodup : (byFile.map (·.1)).Nodup := by simp [byFile]

/-- the obligation of a file is row `i` of `byFile` -/
theorem tagsOf_eq (i : Nat) {f : String} {ts : List String} (h : byFile[i]? = some (f, ts)) : tagsOf f = ts := by
  rw [tagsOf, hookTags_eq]; exact filter_ungroup files_nodup (List.mem_of_getElem? h)

theorem inv_incremental_averages : tagsOf "src/incremental_averages.rs" =
    ["ia.cas", "ia.load", "ia.probe"] := tagsOf_eq 0 rfl

theorem inv_multi_channels_arc_atomic : tagsOf "src/multi/channels/arc/atomic.rs" =
    ["mc.drop.drain", "mc.fan.read"] := tagsOf_eq 1 rfl

theorem inv_multi_channels_arc_crossbeam : tagsOf "src/multi/channels/arc/crossbeam.rs" =
    ["cb.len", "cb.recv", "cb.try", "mc.drop.drain", "mc.fan.read"] := tagsOf_eq 2 rfl

theorem inv_multi_channels_arc_full_sync : tagsOf "src/multi/channels/arc/full_sync.rs" =
    ["mc.drop.drain", "mc.fan.read"] := tagsOf_eq 3 rfl

theorem inv_multi_channels_ogre_arc_atomic : tagsOf "src/multi/channels/ogre_arc/atomic.rs" =
    ["mc.drop.drain", "mc.fan.read"] := tagsOf_eq 4 rfl

theorem inv_multi_channels_ogre_arc_full_sync : tagsOf "src/multi/channels/ogre_arc/full_sync.rs" =
    ["mc.drop.drain", "mc.fan.read"] := tagsOf_eq 5 rfl

theorem inv_mutiny_stream : tagsOf "src/mutiny_stream.rs" =
    ["ms.drop", "ms.poll"] := tagsOf_eq 6 rfl

theorem inv_ogre_std_ogre_alloc_ogre_arc : tagsOf "src/ogre_std/ogre_alloc/ogre_arc.rs" =
    ["oa.clone", "oa.count", "oa.drop.dealloc", "oa.drop.dec", "oa.drop.free", "oa.inc"] := tagsOf_eq 7 rfl

theorem inv_ogre_std_ogre_alloc_ogre_array_pool_allocator : tagsOf "src/ogre_std/ogre_alloc/ogre_array_pool_allocator.rs" =
    ["pa.dealloc.drop", "pa.dealloc.free"] := tagsOf_eq 8 rfl

theorem inv_ogre_std_ogre_queues_atomic_atomic_move : tagsOf "src/ogre_std/ogre_queues/atomic/atomic_move.rs" =
    ["am.c.chkhead", "am.c.chktail", "am.c.fetch", "am.c.fetch", "am.c.loadtail", "am.c.read", "am.c.recede", "am.c.release", "am.len", "am.len", "am.len.head", "am.p.fetch", "am.p.fetch", "am.p.len", "am.p.loadhead", "am.p.publish", "am.p.recede", "am.p.write", "am.p.write", "am.r.cancel", "am.r.len", "am.r.publish"] := tagsOf_eq 9 rfl

theorem inv_ogre_std_ogre_queues_full_sync_full_sync_move : tagsOf "src/ogre_std/ogre_queues/full_sync/full_sync_move.rs" =
    ["fs.c.lock", "fs.c.read", "fs.c.release", "fs.len", "fs.len", "fs.len.head", "fs.p.check", "fs.p.lock", "fs.p.publish", "fs.p.unleak", "fs.p.write", "fs.p.write"] := tagsOf_eq 10 rfl

theorem inv_ogre_std_ogre_queues_log_topics_mmap_meta : tagsOf "src/ogre_std/ogre_queues/log_topics/mmap_meta.rs" =
    ["mm.c.fetch", "mm.c.fetch", "mm.c.loadtail", "mm.c.read", "mm.c.read", "mm.c.recede", "mm.c.recede", "mm.p.fetch", "mm.p.publish", "mm.p.publish", "mm.p.write", "mm.s.load", "mm.s.load"] := tagsOf_eq 11 rfl

theorem inv_ogre_std_ogre_stacks_non_blocking_atomic_stack : tagsOf "src/ogre_std/ogre_stacks/non_blocking_atomic_stack.rs" =
    ["st.crit", "st.crit", "st.swap", "st.swap", "st.unlock", "st.unlock", "st.unlock", "st.unlock"] := tagsOf_eq 12 rfl

theorem inv_ogre_std_ogre_stacks_non_blocking_parking_lot_stack : tagsOf "src/ogre_std/ogre_stacks/non_blocking_parking_lot_stack.rs" =
    ["pl.op", "pl.op"] := tagsOf_eq 13 rfl

theorem inv_ogre_std_ogre_sync : tagsOf "src/ogre_std/ogre_sync.rs" =
    ["sync.spin", "sync.unlocked"] := tagsOf_eq 14 rfl

theorem inv_streams_manager : tagsOf "src/streams_manager.rs" =
    ["sm.cancel", "sm.cancelall.lock", "sm.cancelall.read", "sm.cancelall.unlock", "sm.create.count", "sm.create.flag", "sm.create.vacant", "sm.drop.count", "sm.drop.lock", "sm.drop.vacant", "sm.drop.waker", "sm.flag", "sm.reg.cmp", "sm.reg.lock", "sm.reg.selfwake", "sm.reg.store", "sm.running", "sm.sync.lock", "sm.sync.peek", "sm.sync.sentinel", "sm.sync.write", "sm.sync.write", "sm.wake", "sm.wake.lock", "sm.wake.retry"] := tagsOf_eq 15 rfl

theorem inv_uni_channels_movable_crossbeam : tagsOf "src/uni/channels/movable/crossbeam.rs" =
    ["cb.len", "cb.recv", "cb.try"] := tagsOf_eq 16 rfl

/-- no file with hooks is missing above -/
theorem inv_files : (hookTags.map (·.1)).eraseDups = ["src/incremental_averages.rs", "src/multi/channels/arc/atomic.rs", "src/multi/channels/arc/crossbeam.rs", "src/multi/channels/arc/full_sync.rs", "src/multi/channels/ogre_arc/atomic.rs", "src/multi/channels/ogre_arc/full_sync.rs", "src/mutiny_stream.rs", "src/ogre_std/ogre_alloc/ogre_arc.rs", "src/ogre_std/ogre_alloc/ogre_array_pool_allocator.rs", "src/ogre_std/ogre_queues/atomic/atomic_move.rs", "src/ogre_std/ogre_queues/full_sync/full_sync_move.rs", "src/ogre_std/ogre_queues/log_topics/mmap_meta.rs", "src/ogre_std/ogre_stacks/non_blocking_atomic_stack.rs", "src/ogre_std/ogre_stacks/non_blocking_parking_lot_stack.rs", "src/ogre_std/ogre_sync.rs", "src/streams_manager.rs", "src/uni/channels/movable/crossbeam.rs"] := by
  rw [hookTags_eq]; exact eraseDups_keys_ungroup files_nodup (by decide)

#print axioms inv_incremental_averages
#print axioms inv_multi_channels_arc_atomic
#print axioms inv_multi_channels_arc_crossbeam
#print axioms inv_multi_channels_arc_full_sync
#print axioms inv_multi_channels_ogre_arc_atomic
#print axioms inv_multi_channels_ogre_arc_full_sync
#print axioms inv_mutiny_stream
#print axioms inv_ogre_std_ogre_alloc_ogre_arc
#print axioms inv_ogre_std_ogre_alloc_ogre_array_pool_allocator
#print axioms inv_ogre_std_ogre_queues_atomic_atomic_move
#print axioms inv_ogre_std_ogre_queues_full_sync_full_sync_move
#print axioms inv_ogre_std_ogre_queues_log_topics_mmap_meta
#print axioms inv_ogre_std_ogre_stacks_non_blocking_atomic_stack
#print axioms inv_ogre_std_ogre_stacks_non_blocking_parking_lot_stack
#print axioms inv_ogre_std_ogre_sync
#print axioms inv_streams_manager
#print axioms inv_uni_channels_movable_crossbeam
#print axioms inv_files

end Mutiny.Generated
