import Mutiny.Proofs.RingProps

/-!
# C01 — every accepted value is delivered exactly once; nothing else is delivered; rejected values leave no trace

Scope: every `n > 0`, every `s` with `ReachableX n s` (see `Props/C02.lean` / `Proofs/RingInv.lean` for the one excluded
transition, the index-based *cancel* that hits a foreign sequence number; C01 does not talk about cancel).
`accepted[k]` = value published with sequence number `k`; `delivered` = `(thread, sequence number, value)` in release order.
-/

namespace Mutiny.Ring

variable {n : Nat} {s : St}

/-- no sequence number is delivered twice -/
theorem c01_delivered_distinct (hn : 0 < n) (hr : ReachableX n s) : (s.delivered.map (·.2.1)).Nodup := by
  rw [(reachable_inv hn hr).delIds]; exact List.nodup_range

/-- what is delivered under sequence number `k` is the value that was accepted under `k` -/
theorem c01_delivered_was_accepted (hn : 0 < n) (hr : ReachableX n s) (t k v : Nat) (hm : (t, k, v) ∈ s.delivered) :
    s.accepted[k]? = some v :=
  ((reachable_inv hn hr).shared.fifo.mem_del hm).2

/-- every accepted sequence number is already delivered or still intact in its slot -/
theorem c01_no_loss (hn : 0 < n) (hr : ReachableX n s) :
    ∀ k, k < s.tail → (∃ t v, (t, k, v) ∈ s.delivered) ∨ (s.head ≤ k ∧ s.accepted[k]? = some (s.buf (k % s.N))) :=
  fun _ hk => (reachable_inv hn hr).shared.fifo.no_loss hk

/-- `accepted` grows only by a successful `tail` CAS of the publishing thread — by exactly the value that thread
    wrote under its own sequence number — and that thread then reports success (after measuring the length at `pLen`,
    from where the only step leads to `done (sent _)`); no other action touches it -/
theorem c01_accept_only_by_success (hn : 0 < n) (hr : ReachableX n s) :
    (∀ a, (∀ t, a ≠ .step t) → (apply s a).accepted = s.accepted) ∧
    ∀ t, (step s t).accepted = s.accepted
      ∨ (∃ v id len, s.thr t = .pPublish v id len ∧ s.tail = id ∧ s.buf (id % s.N) = v ∧
            (step s t).accepted = s.accepted ++ [v] ∧ (step s t).thr t = .pLen id ∧
            ∃ l, (step (step s t) t).thr t = .done (.sent l))
      ∨ (∃ id idx g, s.thr t = .rPub id idx g ∧ s.tail = g ∧ g = id ∧ idx = id % s.N ∧
            (step s t).accepted = s.accepted ++ [s.buf idx] ∧
            (step s t).thr t = .rLen g ∧ ∃ l, (step (step s t) t).thr t = .done (.pubIdx (some l))) :=
  ⟨fun a ha => (apply_sameCells s a ha).accepted, accept_only_by_success (reachable_inv hn hr)⟩

/-- a `send` that is going to be rejected has not written anything: up to and including the recede, the producer's
    steps leave buffer, history and both public counters untouched (holds in every state) -/
theorem c01_reject_untouched (s : St) (t : Nat)
    (h : (∃ v rsv, s.thr t = .pFetch v rsv) ∨ (∃ v id rsv, s.thr t = .pLoadHead v id rsv) ∨
         (∃ v id rsv w, s.thr t = .pRecede v id rsv w)) :
    (step s t).buf = s.buf ∧ (step s t).accepted = s.accepted ∧ (step s t).delivered = s.delivered ∧
    (step s t).tail = s.tail ∧ (step s t).head = s.head := by
  rcases h with ⟨v, rsv, h⟩ | ⟨v, id, rsv, h⟩ | ⟨v, id, rsv, w, h⟩ <;> simp only [step, h] <;>
    (repeat' split) <;> simp

/-! ## non-vacuity -/

/-- one value sent and received: accepted once, delivered once -/
example : let s := run (init 2) [.send 0 5, .step 0, .step 0, .step 0, .step 0, .recv 1, .step 1, .step 1, .step 1, .step 1]
    ReachableX 2 s ∧ s.accepted = [5] ∧ s.delivered = [(1, 0, 5)] ∧ s.thr 1 = .done (.got 5) :=
  ⟨reachableX_of_noCancel 2 _ (by intro t; simp), by decide, by decide, by decide⟩

/-- a rejected send (ring of size 1 already full) -/
example : let s := run (init 1) [.send 0 5, .step 0, .step 0, .step 0, .step 0, .send 1 6, .step 1, .step 1, .step 1]
    s.thr 1 = .done .full ∧ s.accepted = [5] ∧ s.buf 0 = 5 := by decide

#print axioms c01_delivered_distinct
#print axioms c01_delivered_was_accepted
#print axioms c01_no_loss
#print axioms c01_accept_only_by_success
#print axioms c01_reject_untouched

end Mutiny.Ring
