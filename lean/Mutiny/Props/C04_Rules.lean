import Mutiny.Proofs.WakeChains
import Mutiny.Generated.WakeRules

/-!
# C04 — the wake decisions READ FROM THE CURRENT SOURCE are the wake rules the no-lost-wake-up theorem is about

`tools/extract.py` (G3) regenerates `Mutiny/Generated/WakeRules.lean` from `/repo` on every run: for every send path of every
channel, the `if … else if …` cascade that guards its `wake_stream(target)` calls, as a term of `Mutiny.WakeRuleLang`.
Each theorem below says that such a generated chain computes, for EVERY `MAX_STREAMS` and every length, exactly
`Wake.Rule.target r` for the rule `r` under which the channel kind is an instance of the `c04_no_stuck_state` theorem
(`Props/C04.lean`).  Changing a comparison, a constant or a wake target in the source changes the generated term, and the
corresponding theorem stops checking — a broken proof obligation, upon which `bin/check` searches the implementation for a
stuck schedule.  Each obligation finds its chain among `Rule.chains r` (`Proofs/WakeChains.lean`: `evalChain_of_mem`).
-/

namespace Mutiny.Wake
open Mutiny.WakeRuleLang Mutiny.Generated

/-- the chain of the normal path of a send function (its first `wake_stream` site) -/
def mainChain (l : List Chain) : Chain := l.headD []

/-! ### Uni channels -/
theorem rule_uniMovableAtomic_send : ∀ MAX len, evalChain MAX len (mainChain uniMovableAtomic_send) = some (Rule.target .atomic MAX len) :=
  evalChain_of_mem (by decide)
theorem rule_uniMovableAtomic_send_with : ∀ MAX len, evalChain MAX len (mainChain uniMovableAtomic_send_with) = some (Rule.target .atomic MAX len) :=
  evalChain_of_mem (by decide)
theorem rule_uniMovableAtomic_try_send_reserved : ∀ MAX len, evalChain MAX len (mainChain uniMovableAtomic_try_send_reserved) = some (Rule.target .rsv MAX len) :=
  evalChain_of_mem (by decide)
theorem rule_uniMovableFullSync_send : ∀ MAX len, evalChain MAX len (mainChain uniMovableFullSync_send) = some (Rule.target .fs MAX len) :=
  evalChain_of_mem (by decide)
theorem rule_uniMovableFullSync_send_with : ∀ MAX len, evalChain MAX len (mainChain uniMovableFullSync_send_with) = some (Rule.target .fs MAX len) :=
  evalChain_of_mem (by decide)
theorem rule_uniMovableCrossbeam_send : ∀ MAX len, evalChain MAX len (mainChain uniMovableCrossbeam_send) = some (Rule.target .cb MAX len) :=
  evalChain_of_mem (by decide)
theorem rule_uniZeroCopyAtomic_send : ∀ MAX len, evalChain MAX len (mainChain uniZeroCopyAtomic_send) = some (Rule.target .atomic MAX len) :=
  evalChain_of_mem (by decide)
theorem rule_uniZeroCopyAtomic_send_with : ∀ MAX len, evalChain MAX len (mainChain uniZeroCopyAtomic_send_with) = some (Rule.target .atomic MAX len) :=
  evalChain_of_mem (by decide)
theorem rule_uniZeroCopyAtomic_send_with_async : ∀ MAX len, evalChain MAX len (mainChain uniZeroCopyAtomic_send_with_async) = some (Rule.target .atomic MAX len) :=
  evalChain_of_mem (by decide)
theorem rule_uniZeroCopyAtomic_try_send_reserved : ∀ MAX len, evalChain MAX len (mainChain uniZeroCopyAtomic_try_send_reserved) = some (Rule.target .rsv MAX len) :=
  evalChain_of_mem (by decide)
theorem rule_uniZeroCopyFullSync_send : ∀ MAX len, evalChain MAX len (mainChain uniZeroCopyFullSync_send) = some (Rule.target .fs MAX len) :=
  evalChain_of_mem (by decide)
theorem rule_uniZeroCopyFullSync_send_with : ∀ MAX len, evalChain MAX len (mainChain uniZeroCopyFullSync_send_with) = some (Rule.target .fs MAX len) :=
  evalChain_of_mem (by decide)
theorem rule_uniZeroCopyFullSync_send_with_async : ∀ MAX len, evalChain MAX len (mainChain uniZeroCopyFullSync_send_with_async) = some (Rule.target .fs MAX len) :=
  evalChain_of_mem (by decide)
theorem rule_uniZeroCopyFullSync_try_send_reserved : ∀ MAX len, evalChain MAX len (mainChain uniZeroCopyFullSync_try_send_reserved) = some (Rule.target .rsv MAX len) :=
  evalChain_of_mem (by decide)

/-- the movable channels' `send_with_async` decides from the length observed at RESERVATION (`len_before < MAX → wake(len_before)`):
    as a function of that length it is the full-sync rule — the finding D5a is that this length is stale, not that the rule differs -/
theorem rule_uniMovable_send_with_async : ∀ MAX len, 0 < len →
    evalChain MAX len (mainChain uniMovableAtomic_send_with_async) = some (Rule.target .fs MAX len) ∧
    evalChain MAX len (mainChain uniMovableFullSync_send_with_async) = some (Rule.target .fs MAX len) := by
  intro MAX len hl
  refine ⟨evalChain_of_mem (by decide) MAX len, ?_⟩
  unfold uniMovableFullSync_send_with_async
  simp only [mainChain, List.headD, evalChain, G.holds, T.val, V.val, E.val, Rule.target, Option.map]
  by_cases h : len - 1 < MAX <;> by_cases h2 : len ≤ MAX <;> simp [h, h2] <;> omega

/-! ### Multi channels (per listener: "that listener" is stream 0 of the one-listener model) -/
theorem rule_multiArcAtomic : ∀ MAX len, evalChain MAX len (mainChain multiArcAtomic_send_derived) = some (Rule.target .m2 MAX len) :=
  evalChain_of_mem (by decide)
theorem rule_multiArcFullSync : ∀ MAX len, evalChain MAX len (mainChain multiArcFullSync_send_derived) = some (Rule.target .m1 MAX len) :=
  evalChain_of_mem (by decide)
theorem rule_multiArcCrossbeam : ∀ MAX len, evalChain MAX len (mainChain multiArcCrossbeam_send_derived) = some (Rule.target .cb MAX len) :=
  evalChain_of_mem (by decide)
theorem rule_multiOgreArcAtomic : ∀ MAX len, evalChain MAX len (mainChain multiOgreArcAtomic_send_derived) = some (Rule.target .m2 MAX len) :=
  evalChain_of_mem (by decide)
theorem rule_multiOgreArcFullSync : ∀ MAX len, evalChain MAX len (mainChain multiOgreArcFullSync_send_derived) = some (Rule.target .m1 MAX len) :=
  evalChain_of_mem (by decide)

/-- the retry-when-full branch of the three Arc channels wakes the listener unconditionally (an extra wake-up is harmless) -/
theorem rule_multiArc_retry_branch : ∀ MAX len,
    (multiArcAtomic_send_derived.drop 1).map (evalChain MAX len) = [some (some 0)] ∧
    (multiArcFullSync_send_derived.drop 1).map (evalChain MAX len) = [some (some 0)] ∧
    (multiArcCrossbeam_send_derived.drop 1).map (evalChain MAX len) = [some (some 0)] := by
  intro MAX len; refine ⟨rfl, rfl, rfl⟩

/-- the log channel wakes EVERY listed listener after EVERY publication, whatever the length -/
theorem rule_multiMmapLog : ∀ MAX len,
    evalChain MAX len (mainChain multiMmapLog_send) = some (Rule.target .all MAX len) ∧
    evalChain MAX len (mainChain multiMmapLog_send_with) = some (Rule.target .all MAX len) := by
  intro MAX len; exact ⟨rfl, rfl⟩

/-- every send path the translator found is one of those the theorems above speak about (a new `wake_stream` site, or one
    that disappeared, changes this list) -/
theorem wake_site_inventory : wakeSites.map (·.1) =
    ["uniMovableAtomic_send", "uniMovableAtomic_send_with", "uniMovableAtomic_send_with_async", "uniMovableAtomic_try_send_reserved",
     "uniMovableFullSync_send", "uniMovableFullSync_send_with", "uniMovableFullSync_send_with_async", "uniMovableCrossbeam_send",
     "uniZeroCopyAtomic_send", "uniZeroCopyAtomic_send_with", "uniZeroCopyAtomic_send_with_async", "uniZeroCopyAtomic_try_send_reserved",
     "uniZeroCopyFullSync_send", "uniZeroCopyFullSync_send_with", "uniZeroCopyFullSync_send_with_async", "uniZeroCopyFullSync_try_send_reserved",
     "multiArcAtomic_send_derived", "multiArcFullSync_send_derived", "multiArcCrossbeam_send_derived", "multiOgreArcAtomic_send_derived",
     "multiOgreArcFullSync_send_derived", "multiMmapLog_send", "multiMmapLog_send_with", "multiMmapLog_send_with_async"] := rfl

/-- each send path has exactly one chain on its normal path (plus, for the Arc channels, the retry branch) -/
theorem wake_site_shapes : wakeSites.map (fun x => x.2.map List.length) =
    [[2], [2], [1], [1], [1], [1], [1], [1], [2], [2], [2], [1], [1], [1], [1], [1], [1, 1], [1, 1], [1, 1], [1], [1], [1], [1], [1]] := rfl

#print axioms rule_uniMovableAtomic_send
#print axioms rule_uniMovableAtomic_send_with
#print axioms rule_uniMovableAtomic_try_send_reserved
#print axioms rule_uniMovableFullSync_send
#print axioms rule_uniMovableFullSync_send_with
#print axioms rule_uniMovableCrossbeam_send
#print axioms rule_uniZeroCopyAtomic_send
#print axioms rule_uniZeroCopyAtomic_send_with
#print axioms rule_uniZeroCopyAtomic_send_with_async
#print axioms rule_uniZeroCopyAtomic_try_send_reserved
#print axioms rule_uniZeroCopyFullSync_send
#print axioms rule_uniZeroCopyFullSync_send_with
#print axioms rule_uniZeroCopyFullSync_send_with_async
#print axioms rule_uniZeroCopyFullSync_try_send_reserved
#print axioms rule_uniMovable_send_with_async
#print axioms rule_multiArcAtomic
#print axioms rule_multiArcFullSync
#print axioms rule_multiArcCrossbeam
#print axioms rule_multiOgreArcAtomic
#print axioms rule_multiOgreArcFullSync
#print axioms rule_multiArc_retry_branch
#print axioms rule_multiMmapLog
#print axioms wake_site_inventory
#print axioms wake_site_shapes

end Mutiny.Wake
