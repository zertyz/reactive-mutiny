import Mutiny.Proofs.ZeroCopyValues

/-!
# C13 / C01 / C16 / C18 for the composed zero-copy container (model M4 `ZeroCopy`)

`AtomicZeroCopy` = pool + free-list ring (`OgreArrayPoolAllocator<_, AtomicMove<u32,N>, N>`) + ring of slot ids
(`AtomicMove<u32,N>`), composed at the granularity of every shared-memory access of both rings
(`Mutiny/Model/ZeroCopy.lean`; the driver replays the recorded traces of the real atomic `NonBlockingQueue` on it).
These theorems are about EVERY reachable state of that composition — any number of threads, any schedule, any history:

* both component rings satisfy the ring invariant (so C01/C02/C16/C20 of M1 hold for the free list and for the queue of
  ids);
* **slot conservation**: the ids in the free list and in the queue are pairwise distinct and `< N`, a slot a thread
  holds (allocated and not yet published, or dequeued and not yet given back) is in neither ring, and no two threads
  hold the same slot — a slot has at most one owner (C13), a payload is never reachable from two places (C01/C05);
* **the rings always have room** (pigeonhole over the conserved slots): `ring.publish(id)` never answers full — the
  `panic!("BUG…")` / `unwrap` branches of the callers are unreachable — and `dealloc` never finds the free list full
  (the ignored result of `publish_movable` in `dealloc_id` is safe);
* consequently `enqueue` answers *full* only when the free list answered *empty* (C16, C18: slots held by operations
  in progress count as taken);
* **values**: a slot's content changes only at the instant it is allocated from the free list — never while it is
  queued or in somebody's hands (C05 "storage never reused while held", C14 "deref stable"); the accepted values are
  the dequeued ones, in queue order, followed by the values now queued — the container is a FIFO of the VALUES, and
  each dequeue takes the oldest one (C01 payload exactness, C02 / C18 order, at the level of the composed container).
-/

namespace Mutiny.ZeroCopy

/-- both rings inside the container satisfy the invariant of ring model M1 -/
theorem zc_components_inv {n : Nat} (hn : 0 < n) {s : St} (h : Reachable n s) : Ring.Inv s.free ∧ Ring.Inv s.q :=
  components_inv hn h

/-- slot conservation (see the header) -/
theorem zc_slot_conservation {n : Nat} (hn : 0 < n) {s : St} (h : Reachable n s) :
    (Ring.abs s.free ++ Ring.abs s.q).Nodup ∧
    (∀ x, x ∈ Ring.abs s.free ++ Ring.abs s.q → x < s.N) ∧
    (∀ t id, held (s.thr t) id → id < s.N ∧ id ∉ Ring.abs s.free ∧ id ∉ Ring.abs s.q) ∧
    (∀ t t' id, held (s.thr t) id → held (s.thr t') id → t = t') := by
  have z := (reachable_zinv hn h).tok
  refine ⟨z.nodup, z.range, fun t id hh => ⟨z.hRange t id hh, ?_, ?_⟩, z.hUniq⟩
  · exact fun hm => z.hFresh t id hh (List.mem_append_left _ hm)
  · exact fun hm => z.hFresh t id hh (List.mem_append_right _ hm)

/-- C13: a slot that some thread holds is not in the free list, hence cannot be handed out by an allocation: `alloc`
    only ever returns the front of the free list (`consumer_step`) -/
theorem zc_no_double_alloc {n : Nat} (hn : 0 < n) {s : St} (h : Reachable n s) (t u v id : Nat)
    (hu : held (s.thr u) id) (hz : s.thr t = .eAlloc v) :
    (step s t).thr t ≠ .ePub v id := by
  have z := reachable_zinv hn h
  rcases step_eAlloc z hz with ⟨id', hd, ha, e⟩ | ⟨hd, ha, e⟩ | ⟨hc, ha, e⟩ <;> rw [e]
  · intro e'
    obtain rfl : id' = id := by simpa using e'
    exact z.tok.hFresh u id' hu (List.mem_append_left _ (by simp [ha]))
  · simp
  · simp [hz]

/-- the queue of ids always has room for every slot that exists -/
theorem zc_queue_room {n : Nat} (hn : 0 < n) {s : St} (h : Reachable n s) : s.q.enqTail ≤ s.q.head + s.N :=
  have z := reachable_zinv hn h; z.nQ ▸ q_room z

/-- and so has the pool's free list, to which `dealloc_id` gives slots back -/
theorem zc_free_list_room {n : Nat} (hn : 0 < n) {s : St} (h : Reachable n s) : s.free.enqTail ≤ s.free.head + s.N :=
  have z := reachable_zinv hn h; z.nF ▸ f_room z

/-- `ring.publish(id)` of an enqueue never answers full: the `BUG` branch of the callers is unreachable -/
theorem zc_publish_never_full {n : Nat} (hn : 0 < n) {s : St} (h : Reachable n s) (t v id : Nat)
    (hz : s.thr t = .ePub v id) :
    (Ring.step s.q t).thr t ≠ .done .full := by
  rcases step_ePub (reachable_zinv hn h) hz with ⟨sid, hd, -⟩ | ⟨hc, -⟩
  · rw [hd]; exact Ring.Loc.noConfusion
  · exact hc.not_done _

/-- `dealloc_id` never finds the free list full -/
theorem zc_dealloc_never_full {n : Nat} (hn : 0 < n) {s : St} (h : Reachable n s) (t id v : Nat)
    (hz : s.thr t = .dFree id v) :
    (Ring.step s.free t).thr t ≠ .done .full := by
  rcases step_dFree (reachable_zinv hn h) hz with ⟨sid, hd, -⟩ | ⟨hc, -⟩
  · rw [hd]; exact Ring.Loc.noConfusion
  · exact hc.not_done _

/-- C16 / C18: the only way an `enqueue` comes to answer *full* is the pool's free list answering *empty* in this very
    step (by C02's witness for `empty`, at some instant of the call every slot was in the queue or in some thread's
    hands) -/
theorem zc_full_only_if_pool_exhausted {n : Nat} (hn : 0 < n) {s : St} (h : Reachable n s) (t : Nat)
    (hnew : (step s t).thr t = .done .full) (hold : s.thr t ≠ .done .full) :
    ∃ v, s.thr t = .eAlloc v ∧ (Ring.step s.free t).thr t = .done .empty := by
  have z := reachable_zinv hn h
  cases hz : s.thr t
  case eAlloc v =>
    refine ⟨v, rfl, ?_⟩
    rcases step_eAlloc z hz with ⟨id', hd, ha, e⟩ | ⟨hd, ha, e⟩ | ⟨hc, ha, e⟩ <;> rw [e] at hnew
    · simp at hnew
    · exact hd
    · simp [hz] at hnew
  -- the one other branch of `step` that answers `full`, never taken
  case ePub v id => rcases step_ePub z hz with ⟨_, _, _, e⟩ | ⟨_, _, e⟩ <;> rw [e] at hnew <;> simp [hz] at hnew
  case done r => simp only [step, hz] at hnew; exact absurd (hz.trans hnew) hold
  case dCons | dFree | ePubLen | dFreeLen => simp only [step, hz] at hnew; split at hnew <;> simp [hz] at hnew
  all_goals simp [step, hz] at hnew

/-! ## values -/

/-- a slot's content is written only at the instant the slot leaves the free list (by conservation: it is then in
    nobody's hands and not in the queue) — never while it is queued or held -/
theorem zc_pool_stable {n : Nat} (hn : 0 < n) {s : St} (h : Reachable n s) (t id : Nat)
    (hc : (step s t).pool id ≠ s.pool id) : id ∈ Ring.abs s.free ∧ id ∉ Ring.abs s.q ∧ ∀ u, ¬ held (s.thr u) id := by
  have z := reachable_zinv hn h
  have hfree : id ∈ Ring.abs s.free := by
    cases hz : s.thr t
    case eAlloc w =>
      rcases step_eAlloc z hz with ⟨id', hd, ha, e⟩ | ⟨hd, ha, e⟩ | ⟨hc', ha, e⟩ <;> rw [e] at hc
      · by_cases e : id = id'
        · simp [e, ha]
        · exact absurd (by simp [setThr, e]) hc
      · exact absurd rfl hc
      · exact absurd rfl hc
    case ePub | dCons | dFree | ePubLen | dFreeLen => simp only [step, hz] at hc; split at hc <;> exact absurd rfl hc
    all_goals simp [step, hz, setThr] at hc
  exact ⟨hfree, fun hq => (List.nodup_append.mp z.tok.nodup).2.2 id hfree id hq rfl,
    fun u hu => z.tok.hFresh u id hu (List.mem_append_left _ hfree)⟩

/-- the container is a FIFO of the VALUES: accepted values = dequeued values (in queue order) ++ values now queued -/
theorem zc_value_fifo {n : Nat} (hn : 0 < n) {s : St} (h : Reachable n s) : ∃ d, s.enqLog = d ++ abs s :=
  (reachable_vinv hn h).2.fifo

/-- a dequeue takes the OLDEST queued value: at the step in which the queue of ids hands slot `id` to thread `t`, the
    value in that slot is the front of the value queue, and the rest of the queue is unchanged -/
theorem zc_dequeue_takes_oldest {n : Nat} (hn : 0 < n) {s : St} (h : Reachable n s) (t id : Nat) (hz : s.thr t = .dCons)
    (hg : (Ring.step s.q t).thr t = .done (.got id)) :
    abs s = s.pool id :: abs (step s t) ∧ (step s t).thr t = .dLen id := by
  rcases step_dCons (reachable_zinv hn h) hz with ⟨id', hd, ha, e⟩ | ⟨hd, -, -⟩ | ⟨hc, -, -⟩
  · obtain rfl : id' = id := by rw [hd] at hg; cases hg; rfl
    rw [e]
    refine ⟨?_, by simp⟩
    show (Ring.abs s.q).map s.pool = s.pool id' :: (Ring.abs (Ring.apply (Ring.step s.q t) (.ack t))).map s.pool
    rw [Ring.abs_call _ _ (by simp), ha, List.map_cons]
  · rw [hd] at hg; cases hg
  · exact absurd hg (hc.not_done _)

/-- what a dequeue finally returns is the content of the slot it took (read at `dLenH`, after the two loads of the
    length query; unchanged since by `zc_pool_stable`) -/
theorem zc_dequeue_returns_slot_content (s : St) (t id : Nat) (hz : s.thr t = .dLenH id) :
    (step s t).thr t = .dDrop id (s.pool id) ∧ (step s t).deqLog = s.deqLog ++ [s.pool id] := by
  simp [step, hz, setThr]

/-! ## non-vacuity: a reachable state in which a slot is held, one is queued, and the free list holds the rest -/

def demoRun : List Act :=
  [.enqueue 0 7, .step 0, .step 0, .step 0, .step 0, .step 0, .step 0, .step 0, .step 0, .ack 0,
   .enqueue 1 8, .step 1, .step 1, .step 1, .step 1]

example : let s := run (init 4) demoRun
    Ring.abs s.free = [2, 3] ∧ Ring.abs s.q = [0] ∧ s.thr 1 = .ePub 8 1 ∧ s.pool 0 = 7 ∧ s.pool 1 = 8 := by decide

#print axioms zc_components_inv
#print axioms zc_slot_conservation
#print axioms zc_no_double_alloc
#print axioms zc_queue_room
#print axioms zc_free_list_room
#print axioms zc_publish_never_full
#print axioms zc_dealloc_never_full
#print axioms zc_full_only_if_pool_exhausted
#print axioms zc_pool_stable
#print axioms zc_value_fifo
#print axioms zc_dequeue_takes_oldest
#print axioms zc_dequeue_returns_slot_content

end Mutiny.ZeroCopy
