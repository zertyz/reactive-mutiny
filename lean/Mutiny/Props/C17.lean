import Mutiny.Props.C03

/-!
# C17 — fan-out while listeners come and go

Model M6 + M7 (`Mutiny/Model/Multi.lean`).  Intended claim: under ANY interleaving of the micro-steps of `create` /
`drop` (stream churn) with the micro-steps of `send`, every listener that is live throughout a send receives the event
exactly once, nobody else does, and (ogre_arc) the reference counter returns to 0 once every copy was released.

**That full claim is FALSE — of the model and (the model being tied to the real channels step by step by the replay
driver, whose scheduled runs include runs exhibiting these defects) of the Rust code**:
`c17_missed_event_counterexample`, `c17_leaked_slot_counterexample`, `c17_torn_list_counterexample`.
The fan-out reads `used_streams_count` and the entries of `used_streams` without the `streams_lock` that
`sync_vacant_and_used_streams` holds while rewriting them, and `create`/`drop` change the count before (not atomically
with) the list.

What IS true, `c17_partial`: if no step of a `create`/`drop` falls between the first and the last step of any `send`
— formally: the execution is a sequence of *phases*, each either a legal sequential history of completed operations
(churn, `Phase.churn`, which may `cancel` listeners) or a concurrent execution of `send`/`poll`/`release`/`cancel`
actions and micro-steps by any number of threads (`Phase.fan`) after which every thread that acted is idle again —
then every phase starts in a quiescent well-formed state, so all of C03 holds for every fan-out phase with `L` = the
listeners live at its start, for arbitrarily many rounds of churn in between.  Missing for the full claim: any overlap
of a `create`/`drop`/`sync` micro-step with a `send` (false, see above) and — not needed for the counterexamples, simply
not covered — `poll`s overlapping churn and `create`s/`drop`s overlapping each other.
-/

namespace Mutiny.Multi

/-- **C17 (partial: churn only between sends).**  After any sequence of legal phases from `init`, the state is
    quiescent and well-formed (and a reachable state of the model); hence for a further concurrent fan-out execution `as`
    (any threads, any interleaving, no `create`/`drop`, pairwise distinct events), with `L` = the listeners live now:
    the bookkeeping is not touched; each completed send published exactly one copy to each `l ∈ L` and none to anybody
    else, a send in progress at most one; each listener's deliveries followed by its queue are its initial queue followed
    by its publications, in order.  (`c03_producer_order`, `c03_refs`, `c03_fanout_prefix` apply in the same way: they
    only need `WF`.) -/
theorem c17_partial (mx n : Nat) (f : Flavor) (d : Bool) (ps : List Phase) (hps : PhasesOK (init mx n f d) ps)
    (as : List Act) (hfa : ∀ a ∈ as, FanAct a) (hnd : (sendEvs as).Nodup) :
    let s₀ := runPhases (init mx n f d) ps
    let s := run s₀ as
    WF s₀ ∧ Reachable mx n f d s ∧
      (s.used = s₀.used ∧ s.count = s₀.count ∧ s.vacant = s₀.vacant ∧ s.live = s₀.live ∧ s.slock = s₀.slock ∧
        ∀ j, s.keep j = if j ∈ cancelIds as then false else s₀.keep j) ∧
      ∃ P S D, s.pubs = s₀.pubs ++ P ∧ s.sent = s₀.sent ++ S ∧ s.delivered = s₀.delivered ++ D ∧
        (∀ ev ∈ S, ∀ l, P.count (ev, l) = if l ∈ s₀.live then 1 else 0) ∧
        (∀ ev l, P.count (ev, l) ≤ 1) ∧ (∀ ev l, l ∉ s₀.live → (ev, l) ∉ P) ∧
        (∀ l, dlvOf D l ++ s.queues l = s₀.queues l ++ pubsTo P l) := by
  intro s₀ s
  have hw : WF s₀ := wf_runPhases wf_init hps
  obtain ⟨pre, hpre⟩ := runPhases_eq_run (init mx n f d) ps
  obtain ⟨_, hu, hc, hv, hl, hk, hkeep, _⟩ := c03_frame s₀ hw as hfa
  obtain ⟨P, S, hp, hs, once, atMost, onlyLive, _⟩ := c03_fanout_exact s₀ hw as hfa hnd
  obtain ⟨P', D, hp', hd, order⟩ := c03_listener_order s₀ hw as hfa
  obtain rfl : P = P' := List.append_cancel_left (hp.symm.trans hp')
  exact ⟨hw, ⟨pre ++ as, by rw [run_append, ← hpre]⟩, ⟨hu, hc, hv, hl, hk, hkeep⟩,
    P, S, D, hp, hs, hd, once, atMost, onlyLive, order⟩

/-- every phase boundary is quiescent and well-formed -/
theorem c17_phase_wf (mx n : Nat) (f : Flavor) (d : Bool) (ps : List Phase) (hps : PhasesOK (init mx n f d) ps) :
    WF (runPhases (init mx n f d) ps) :=
  wf_runPhases wf_init hps

/-! ## non-vacuity: churn, concurrent fan-out, churn again (ids recycled), concurrent fan-out -/

def churnPhases : List Phase :=
  [.churn [.create, .create, .create],
   .fan [.send 1 7, .send 2 8, .step 1, .step 2, .step 2, .step 1, .step 1, .step 2, .step 2, .step 1, .ack 1, .ack 2,
         .poll 3 0, .step 3, .ack 3],
   .churn [.cancel 0, .poll 0, .drop 0, .create, .cancel 1, .drop 1]]

def lastFan : List Act :=
  [.send 1 9, .send 2 10, .step 2, .step 1, .cancel 2, .step 1, .step 2, .step 2, .step 1, .ack 1]

example :
    PhasesOK (init 3 8 .ogreArc true) churnPhases ∧ (∀ a ∈ lastFan, FanAct a) ∧ (sendEvs lastFan).Nodup ∧
      (runPhases (init 3 8 .ogreArc true) churnPhases).live = [2, 0] ∧
      (run (runPhases (init 3 8 .ogreArc true) churnPhases) lastFan).pubs =
        [(8, 0), (7, 0), (7, 1), (8, 1), (8, 2), (7, 2), (9, 0), (10, 0), (10, 2), (9, 2)] := by
  decide

/-! ## recorded findings: a `send` overlapping a `create` / `drop` -/

/-- thread 1 drops listener 0 up to and including `sm.drop.count` (`count = 2`, `used` still `[0,1,2]`); thread 0 sends
    event 7: reads `count = 2`, visits entries 0 and 1 of the not yet rewritten list; the drop then completes -/
def missedWitness : List Act :=
  [.drop 1 0, .step 1, .step 1,
   .send 0 7, .step 0, .step 0, .step 0,
   .step 1, .step 1, .step 1, .step 1, .step 1, .step 1, .ack 1, .ack 0]

/-- **finding (ogre_arc, `send` ∥ `drop` of the lowest id).**  `MAX = 3`, listeners `{0,1,2}`.  Listener 2 is live
    before, during and after the send, the send of event 7 completes (`7 ∈ sent`, answer `unit`), and listener 2 gets no
    copy; instead a copy is left in the queue of the id 0 that has just been drained and is vacant again (so the next
    listener created with id 0 starts with a stale event although `drop` drains), and the reference counter (2) exceeds
    the number of copies a consumer will ever release. -/
theorem c17_missed_event_counterexample :
    let s₀ := setup 3 3 .ogreArc
    let s := run s₀ missedWitness
    WF s₀ ∧ s₀.live = [0, 1, 2] ∧ s₀.used = [0, 1, 2] ∧
      (∀ k, k ≤ missedWitness.length → 2 ∈ (run s₀ (missedWitness.take k)).live) ∧
      (run s₀ (missedWitness.take 7)).thr 0 = .done .unit ∧
      s.thr 0 = .idle ∧ s.thr 1 = .idle ∧ s.slock = false ∧ s.live = [1, 2] ∧ s.vacant = [0] ∧ s.count = 2 ∧
      s.used = [1, 2, 3] ∧
      7 ∈ s.sent ∧ (7, 2) ∉ s.pubs ∧ s.queues 2 = [] ∧ s.pubs = [(7, 0), (7, 1)] ∧ s.queues 0 = [7] ∧ s.refs 7 = 2 :=
  ⟨wf_exec wf_init (by decide), by decide⟩

/-- thread 1 starts a `create` up to and including `sm.create.count` (`count = 3`, `used` still `[0,1,S]`); thread 0
    sends event 7: reads `count = 3`, adds 3 to the reference counter, finds only two non-sentinel entries among the first
    three; the create completes (id 2); both copies are consumed and released -/
def leakedWitness : List Act :=
  [.create 1, .step 1,
   .send 0 7, .step 0, .step 0, .step 0, .step 0, .ack 0,
   .step 1, .step 1, .step 1, .step 1, .step 1, .step 1, .step 1, .ack 1,
   .poll 0 0, .step 0, .ack 0, .poll 0 1, .step 0, .ack 0, .release 7, .release 7]

/-- **finding (ogre_arc, `send` ∥ `create`).**  `MAX = 3`, listeners `{0,1}`.  After every copy of event 7 has been
    delivered and released, and with every queue empty and every thread idle, `refs 7 = 1 ≠ 0`: the payload slot is never
    returned to the pool (with `N` such sends the pool is exhausted and every later `send` answers `full`). -/
theorem c17_leaked_slot_counterexample :
    let s₀ := setup 3 2 .ogreArc
    let s := run s₀ leakedWitness
    WF s₀ ∧ s₀.live = [0, 1] ∧ s₀.used = [0, 1, 3] ∧ s₀.refs 7 = 0 ∧
      s.thr 0 = .idle ∧ s.thr 1 = .idle ∧ s.slock = false ∧ s.live = [0, 1, 2] ∧ s.used = [0, 1, 2] ∧ s.count = 3 ∧
      7 ∈ s.sent ∧ s.pubs = [(7, 0), (7, 1)] ∧ s.delivered = [(0, 1, 7), (1, 1, 7)] ∧
      s.queues 0 = [] ∧ s.queues 1 = [] ∧ s.queues 2 = [] ∧ s.refs 7 = 1 ∧
      (s.started.filter (fun e => s.refs e > 0)) = [7] :=
  ⟨wf_exec wf_init (by decide), by decide⟩

/-- thread 1 drops listener 0 up to and including `sm.sync.peek` (about to rewrite `[0,1,2,S]` into `[1,2,S,S]`);
    thread 0 starts sending event 7 and reads entry 0 (= 0, old); thread 1 rewrites all four entries; thread 0 goes on:
    entry 1 (= 2, new), entry 2 (= S, new) -/
def tornWitness : List Act :=
  [.drop 1 0, .step 1, .step 1, .step 1, .step 1, .step 1,
   .send 0 7,
   .step 1, .step 1, .step 1, .step 1, .ack 1,
   .step 0, .step 0, .step 0, .ack 0]

/-- **finding (arc, `send` ∥ `sync_vacant_and_used_streams`).**  `MAX = 4`, listeners `{0,1,2}`.  Listener 1 is live
    before, during and after the send, the send completes, and listener 1 is skipped; the dropped (and already drained)
    id 0 gets a copy instead. -/
theorem c17_torn_list_counterexample :
    let s₀ := setup 4 3 .arc
    let s := run s₀ tornWitness
    WF s₀ ∧ s₀.live = [0, 1, 2] ∧ s₀.used = [0, 1, 2, 4] ∧
      (∀ k, k ≤ tornWitness.length → 1 ∈ (run s₀ (tornWitness.take k)).live) ∧
      s.thr 0 = .idle ∧ s.thr 1 = .idle ∧ s.slock = false ∧ s.live = [1, 2] ∧ s.vacant = [3, 0] ∧
      s.used = [1, 2, 4, 4] ∧ s.count = 2 ∧
      7 ∈ s.sent ∧ (7, 1) ∉ s.pubs ∧ s.queues 1 = [] ∧ s.pubs = [(7, 0), (7, 2)] ∧ s.queues 0 = [7] :=
  ⟨wf_exec wf_init (by decide), by decide⟩

end Mutiny.Multi

#print axioms Mutiny.Multi.c17_partial
#print axioms Mutiny.Multi.c17_phase_wf
#print axioms Mutiny.Multi.c17_missed_event_counterexample
#print axioms Mutiny.Multi.c17_leaked_slot_counterexample
#print axioms Mutiny.Multi.c17_torn_list_counterexample
