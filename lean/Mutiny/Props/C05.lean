import Mutiny.Proofs.HandlesProps
import Mutiny.Proofs.TeardownProps
import Mutiny.Generated.DropOrder

/-!
# C05 — a pooled payload is destroyed exactly once, its storage is never reused while a handle is left, and the
# teardown of the owning channel is safe

Scope: every `n`, every `s` with `Reachable n s` (any number of threads, any schedule).  `dropLog` records every destructor
run as `(slot id, allocation generation, value)`; generations are unique per allocation (`nextGen`).
Teardown is about the *declaration order* of the fields of the channel structs, extracted from the Rust source into
`Mutiny/Generated/DropOrder.lean`.
-/

namespace Mutiny.Handles

open Mutiny.Teardown

variable {n : Nat} {s : St}

/-- no allocation generation is destroyed twice, and only generations that were allocated are destroyed -/
theorem c05_drop_once (hr : Reachable n s) :
    (s.dropLog.map (·.2.1)).Nodup ∧ ∀ e ∈ s.dropLog, e.2.1 < s.nextGen :=
  ⟨(reachable_inv hr).logNodup, (reachable_inv hr).logLt⟩

/-- once a control block no longer owns its slot and its destructor run is not pending any more (`dDestroy`) — in
    particular once it was given back to the heap (`freed`) — its payload was destroyed exactly once, in its own slot,
    holding the value it was created with -/
theorem c05_destroyed_when_released (hr : Reachable n s) (i : Nat) (hlen : i < s.cbs.length) :
    (¬ Owning s i → (∀ t, s.thr t ≠ .dDestroy i) → (s.dropLog.map (·.2.1)).count (getCB s i).gen = 1 ∧
        ((getCB s i).id, (getCB s i).gen, (getCB s i).val) ∈ s.dropLog) ∧
    ((getCB s i).freed = true → ¬ Owning s i ∧ ∀ t, s.thr t ≠ .dDestroy i) ∧
    ((getCB s i).freed = true → (s.dropLog.map (·.2.1)).count (getCB s i).gen = 1) := by
  have hi := reachable_inv hr
  have h1 (hno : ¬ Owning s i) (hnd : ∀ t, s.thr t ≠ .dDestroy i) :=
    have hm := hi.deadLogged i hlen fun ho => ((owns_iff hi i).1 ho).elim hno fun ⟨t, ht⟩ => hnd t ht
    And.intro (logged_once hi hm) hm
  have h2 (hf : (getCB s i).freed = true) : ¬ Owning s i ∧ ∀ t, s.thr t ≠ .dDestroy i :=
    ⟨fun ho => absurd (hi.owner (owns_of_owning hi ho)).notFreed (by simp [hf]),
     fun t ht => absurd (hi.tailOk t i (by rw [ht]; rfl)).2.1 (by simp [hf])⟩
  exact ⟨h1, h2, fun hf => (h1 (h2 hf).1 (h2 hf).2).1⟩

/-- while a handle of control block `i` is left (existing, in use by a call, or announced), no allocation returns its
    slot and nothing overwrites the slot -/
theorem c05_no_reuse_while_held (hr : Reachable n s) (i : Nat)
    (hh : (getCB s i).live + (getCB s i).lent + (getCB s i).owed > 0) :
    (∀ t v id, s.thr t = .idle → (apply s (.newUnique t v)).thr t = .done (.unique id) → id ≠ (getCB s i).id) ∧
    (∀ t v k j, s.thr t = .idle → k > 0 → (apply s (.newArc t v k)).thr t = .done (.arc j) →
        (getCB (apply s (.newArc t v k)) j).id ≠ (getCB s i).id) ∧
    (∀ a, (apply s a).slot (getCB s i).id = s.slot (getCB s i).id) ∧
    s.slot (getCB s i).id = (getCB s i).val ∧ s.alive (getCB s i).id = true := by
  have hi := reachable_inv hr
  have ho := owns_of_owning hi (held_owning hi hh)
  have ⟨a, b, c⟩ := not_free_safe s _ (hi.owner ho).free
  exact ⟨a, b, c, (hi.owner ho).val, ho.alive⟩

/-- while a unique handle / raw allocation holds slot `u`, no allocation returns it, nothing overwrites it and its
    payload is not destroyed -/
theorem c05_no_reuse_while_held_unique (hr : Reachable n s) (u : Nat) (hu : u ∈ s.uniques) :
    (∀ t v id, s.thr t = .idle → (apply s (.newUnique t v)).thr t = .done (.unique id) → id ≠ u) ∧
    (∀ t v k j, s.thr t = .idle → k > 0 → (apply s (.newArc t v k)).thr t = .done (.arc j) →
        (getCB (apply s (.newArc t v k)) j).id ≠ u) ∧
    (∀ a, (apply s a).slot u = s.slot u) ∧ s.alive u = true := by
  have ok := (reachable_inv hr).unique hu
  have ⟨a, b, c⟩ := not_free_safe s u ok.free
  exact ⟨a, b, c, ok.alive⟩

/-- **the storage of a payload is never handed out before its destructor has finished**: while a thread is inside
    `dealloc_id` for slot `x` — destructor pending or running (`dDestroy i` / `uDestroy x`) or done with the free-list push
    still pending (`dRelease i` / `uRelease x`) — the slot is not in the free list, hence no `newArc` / `newUnique` of
    anybody returns it, and no action of anybody overwrites it.  (A `dealloc_id` that pushes the id before running the
    destructor violates exactly this.) -/
theorem c05_not_allocatable_while_destroyed (hr : Reachable n s) (u x : Nat)
    (hx : inTransitOf s (s.thr u) = some x) :
    x ∉ s.free ∧
    (∀ t v id, s.thr t = .idle → (apply s (.newUnique t v)).thr t = .done (.unique id) → id ≠ x) ∧
    (∀ t v k j, s.thr t = .idle → k > 0 → (apply s (.newArc t v k)).thr t = .done (.arc j) →
        (getCB (apply s (.newArc t v k)) j).id ≠ x) ∧
    (∀ a, (apply s a).slot x = s.slot x) ∧
    x ∉ s.uniques ∧ (∀ i, Owning s i → (getCB s i).id ≠ x) ∧
    (∀ w, inTransitOf s (s.thr w) = some x → w = u) := by
  have hi := reachable_inv hr
  have hok := inTransit_ok hi hx
  have ⟨a, b, c⟩ := not_free_safe s x hok.free
  exact ⟨hok.free, a, b, c, hok.uniq, hok.notOwned, fun _ hw => inTransit_inj hi hw hx⟩

/-- the four program points inside `dealloc_id`, one by one: the slot is not free at any of them; its payload is alive
    and not in the log before the destructor, dead and logged exactly once after it -/
theorem c05_destroy_then_release (hr : Reachable n s) (t : Nat) :
    (∀ i, s.thr t = .dDestroy i → (getCB s i).id ∉ s.free ∧ s.alive (getCB s i).id = true ∧
        (getCB s i).gen ∉ s.dropLog.map (·.2.1)) ∧
    (∀ i, s.thr t = .dRelease i → (getCB s i).id ∉ s.free ∧ s.alive (getCB s i).id = false ∧
        (s.dropLog.map (·.2.1)).count (getCB s i).gen = 1) ∧
    (∀ x, s.thr t = .uDestroy x → x ∉ s.free ∧ s.alive x = true ∧ s.slotGen x ∉ s.dropLog.map (·.2.1)) ∧
    (∀ x, s.thr t = .uRelease x → x ∉ s.free ∧ s.alive x = false ∧
        (s.dropLog.map (·.2.1)).count (s.slotGen x) = 1) := by
  have hi := reachable_inv hr
  have l := hi.loc t
  refine ⟨fun i hl => ?_, fun i hl => ?_, fun x hl => ?_, fun x hl => ?_⟩ <;> rw [hl] at l
  · have oi := l.owns rfl
    exact ⟨(hi.owner oi).free, oi.alive, oi.gen ▸ hi.aliveNotLogged _ oi.alive⟩
  · obtain ⟨tl, ub, dead⟩ := l
    exact ⟨ub.free, dead, logged_once hi (hi.deadLogged i tl.1 fun ho => ub.notOwned i ho rfl)⟩
  · obtain ⟨ub, live⟩ := l
    exact ⟨ub.free, live, hi.aliveNotLogged x live⟩
  · obtain ⟨ub, dead, logged⟩ := l
    exact ⟨ub.free, dead, logged_once hi logged⟩

/-- when every owner is gone and nobody is inside `dealloc_id` the pool is back at full capacity: nothing leaked -/
theorem c05_capacity_restored (hr : Reachable n s) (ho : ∀ i, ¬ Owning s i) (hu : s.uniques = [])
    (ht : ∀ t, inTransitOf s (s.thr t) = none) :
    s.free.length = s.N ∧ s.N = n ∧ ∀ x, x < n → x ∈ s.free := by
  have hi := reachable_inv hr
  obtain ⟨own, tr, _, _, h2, h2', h3⟩ := pool_census hi
  have hown : own = [] := List.eq_nil_iff_forall_not_mem.2 fun a ha => ho a ((h2 a).1 ha)
  have htr : tr = [] := List.eq_nil_iff_forall_not_mem.2 fun a ha => by simpa [ht a] using (h2' a).1 ha
  have hlen : s.free.length = s.N := by simpa [hown, htr, hu] using h3
  have hN := reachable_N hr
  exact ⟨hlen, hN, fun x hx => mem_of_nodup_of_length_eq hi.freeNodup hi.freeLt hlen (hN ▸ hx)⟩

/-! ## teardown -/

/-- no pool access after the pool was freed — whatever number `k` of handles each handle-holding field still buffers —
    iff no handle-holding field is declared after the allocator; all buffered handles are destroyed -/
theorem c05_teardown_safe_iff (fields : List Role) :
    ((∀ k, (teardown fields k).errors = 0) ↔ orderOk fields = true) ∧
    (∀ k, (teardown fields k).dropped = k * handleCount fields) ∧
    (∀ k, (teardown fields k).errors = k * lateHandles fields) :=
  ⟨teardown_safe_iff fields, teardown_dropped fields, teardown_errors fields⟩

/-- The instance on the tables GENERATED from the current Rust source (`tools/extract.py`, regenerated on every run):
    in every channel / container struct that owns a pool together with handles into it, every handle-holding field is
    declared (hence dropped) before the allocator.  Reordering fields in the source changes the generated table and
    re-runs this obligation; it fails for the order of defect D2 (next theorem). -/
theorem c05_teardown_generated : ∀ p ∈ Mutiny.Generated.allStructs, orderOk (p.2.map (·.2)) = true := by decide
#print axioms c05_teardown_generated
/-- the order of defect D2 (the two Multi ogre_arc channels with `allocator` declared before `dispatcher_managers`: use
    after free at teardown with buffered events), a witness that the criterion is not vacuous -/
theorem c05_teardown_pinned_counterexample :
    (teardown ([("streams_manager", Role.other), ("allocator", .allocator), ("dispatcher_managers", .handles),
                ("_phanrom", .other)].map (·.2)) 1).errors = 1 := by decide
#print axioms c05_teardown_pinned_counterexample

/-- the corrected order (handle-holding field before the allocator) is safe -/
example : orderOk [.other, .handles, .allocator, .other] = true := by decide
example : ∀ k, (teardown [.other, .handles, .allocator, .other] k).errors = 0 :=
  (teardown_safe_iff _).2 (by decide)
/-- the statement of `c05_teardown_generated` on a table with `dispatcher_managers` moved before `allocator` -/
example : ∀ p ∈ [("multiOgreArcAtomic", [("streams_manager", Role.other), ("dispatcher_managers", .handles),
      ("allocator", .allocator), ("_phanrom", .other)]), ("uniZeroCopyAtomic", Mutiny.Generated.uniZeroCopyAtomic),
      ("atomicZeroCopy", Mutiny.Generated.atomicZeroCopy)], orderOk (p.2.map (·.2)) = true := by decide
/-- `orderOk` of four of the generated tables, one by one -/
example : ∀ p ∈ [Mutiny.Generated.uniZeroCopyAtomic, Mutiny.Generated.uniZeroCopyFullSync,
    Mutiny.Generated.atomicZeroCopy, Mutiny.Generated.fullSyncZeroCopy], orderOk (p.map (·.2)) = true := by decide

/-! ## non-vacuity -/

/-- a shared value with two handles: destroyed once, when the last one goes; then the control block is freed and the
    pool is whole again -/
example : let s := run (init 2) [.newArc 0 7 2, .ack 0, .dropArc 0 0, .step 0, .ack 0, .dropArc 1 0, .step 1, .step 1, .step 1,
      .step 1, .step 1]
    Reachable 2 s ∧ s.dropLog = [(0, 1, 7)] ∧ (getCB s 0).freed = true ∧ s.free = [1, 0] ∧ s.uniques = [] :=
  ⟨⟨_, rfl⟩, by decide, by decide, by decide, by decide⟩

/-- held: one handle left after the first drop — nothing destroyed, slot intact, an allocation gets the *other* slot -/
example : let s := run (init 2) [.newArc 0 7 2, .ack 0, .dropArc 0 0, .step 0, .ack 0, .newUnique 1 9]
    s.dropLog = [] ∧ (getCB s 0).live = 1 ∧ s.slot 0 = 7 ∧ s.thr 1 = .done (.unique 1) := by decide

/-- `c05_not_allocatable_while_destroyed`: thread 1 is between destructor and push for slot 0 — slot 0 is not
    allocatable, the allocation of thread 0 gets slot 1 -/
example : let s := run (init 2) [.newArc 0 7 1, .ack 0, .dropArc 1 0, .step 1, .step 1, .step 1, .newUnique 0 9]
    Reachable 2 s ∧ s.thr 1 = .dRelease 0 ∧ s.dropLog = [(0, 1, 7)] ∧ s.free = [] ∧ s.thr 0 = .done (.unique 1) ∧
    s.slot 0 = 7 := ⟨⟨_, rfl⟩, by decide, by decide, by decide, by decide, by decide⟩

#print axioms c05_drop_once
#print axioms c05_destroyed_when_released
#print axioms c05_no_reuse_while_held
#print axioms c05_no_reuse_while_held_unique
#print axioms c05_not_allocatable_while_destroyed
#print axioms c05_destroy_then_release
#print axioms c05_capacity_restored
#print axioms c05_teardown_safe_iff

end Mutiny.Handles
