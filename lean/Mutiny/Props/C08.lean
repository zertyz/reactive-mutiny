import Mutiny.Proofs.RingRsv
import Mutiny.Props.C16

/-!
# C08 — reserved slots: publish / cancel by index are exact, the slot is private, nothing leaks

Scope: every `n > 0`, every `s` with `ReachableX n s` (`Proofs/RingInv.lean`).  The cancel theorems carry the hypothesis
`AllAdmitted s` (every producer-side holder is past its admission test); `c08_sequential_in_scope` shows that it holds at
every cancel step of every run whose producer-side calls are sequential (`SeqP`; consumers unrestricted), and that such runs
are inside `ReachableX`.  Without it the cancel is NOT exact: `cancel_steals` (`Proofs/RingInv.lean`).
-/

namespace Mutiny.Ring

variable {n : Nat} {s : St}

/-- publish-by-index: the CAS succeeds only on the caller's own sequence number (whatever the counters' magnitude and
    however often the ring lapped), and what is accepted under that number is the content of the reserved slot;
    conversely, while it is not the caller's turn the step publishes nothing and keeps the reservation -/
theorem c08_publish_idx_exact (hn : 0 < n) (hr : ReachableX n s) (t id idx g : Nat) (ht : s.thr t = .rPub id idx g) :
    (s.tail = g → g = id ∧ idx = id % s.N ∧ (step s t).accepted = s.accepted ++ [s.buf (id % s.N)] ∧
        (step s t).accepted[id]? = some (s.buf (id % s.N)) ∧ (step s t).tail = id + 1 ∧
        (step s t).thr t = .rLen id) ∧
    (s.tail ≠ id → (step s t).accepted = s.accepted ∧ (step s t).tail = s.tail ∧ holdsP ((step s t).thr t) id) := by
  have hi := reachable_inv hn hr
  constructor
  · rintro rfl
    obtain ⟨rfl, rfl, e⟩ := rPub_success hi ht rfl
    rw [e]
    exact ⟨rfl, rfl, rfl, by rw [← hi.accLen]; exact List.getElem?_concat_length, rfl, thr_setThr_self ..⟩
  · intro hne
    have hg : s.tail ≠ g := fun he => hne (he.trans (rPub_success hi ht he).1)
    simp only [step, ht, hg, if_false]
    split <;> simp [holdsP]

/-- the length a successful publish-by-index answers: `u32::max(1, previous_tail - head)` with `head` loaded AFTER the
    publication and no signed clamp.  If no consumer moved `head` past the published sequence number in between (`head ≤ g`,
    within the `u32` window) the answer is the number of unreleased elements in front of it, at least 1; otherwise the `u32`
    difference wraps (the example below: 4294967295) — harmless where the crate uses it (the wake rule then wakes nobody,
    and the element is already with a consumer), recorded in DESIGN.md 11.9 -/
theorem c08_publish_idx_len (s : St) (t g : Nat) (ht : s.thr t = .rLen g) :
    (step s t).thr t = .done (.pubIdx (some (max 1 (U32.wsub (U32.wrap g) (U32.wrap s.head))))) ∧
    (s.head ≤ g → g - s.head < 4294967296 → (step s t).thr t = .done (.pubIdx (some (max 1 (g - s.head))))) :=
  ⟨by simp [step, ht], fun h1 h2 => by simp [step, ht, U32.wsub_wrap g s.head h1 h2]⟩

set_option maxRecDepth 16384 in
/-- the wrap is real: a consumer takes the just-published element between the publication CAS and the `head` load -/
example : let s := run (init 2) [.reserve 0, .step 0, .step 0, .ack 0, .fill 0 9, .pubIdx 0, .step 0,
                                  .recv 1, .step 1, .step 1, .step 1, .step 1, .step 0]
    s.thr 0 = .done (.pubIdx (some 4294967295)) ∧ s.thr 1 = .done (.got 9) := by decide +kernel

/-- cancel-by-index is exact when every other producer-side holder is admitted: the CAS succeeds only on the caller's own
    sequence number; it then gives exactly that number back and changes nothing else -/
theorem c08_cancel_exact (hn : 0 < n) (hr : ReachableX n s) (hadm : AllAdmitted s) (t id idx g : Nat)
    (ht : s.thr t = .rCan id idx g) (he : s.enqTail = g + 1) :
    g = id ∧ (step s t).enqTail = id ∧ (step s t).thr t = .done (.canIdx true) ∧ (∀ k, ¬ holdsP ((step s t).thr t) k) ∧
    (step s t).tail = s.tail ∧ (step s t).head = s.head ∧ (step s t).deqHead = s.deqHead ∧ (step s t).buf = s.buf ∧
    (step s t).accepted = s.accepted ∧ (step s t).delivered = s.delivered ∧
    (∀ u, u ≠ t → (step s t).thr u = s.thr u) ∧ ReachableX n (step s t) := by
  have hex := canExact_of_allAdmitted s (.step t) (reachable_inv hn hr) hadm
  obtain rfl := hex t id idx g rfl ht he
  have hx : ReachableX n (step s t) := hr.apply (.step t) hex
  rw [rCan_success ht he] at hx ⊢
  exact ⟨rfl, rfl, thr_setThr_self .., fun k => by simp [holdsP], rfl, rfl, rfl, rfl, rfl, rfl, fun u hu => if_neg hu, hx⟩

/-- runs with sequential producer-side calls are in scope: `SeqP` gives `AllAdmitted` at every cancel step, hence
    `CanExact`; `SeqP` is kept as long as no producer-side call is started while another one is in progress; and a run all
    of whose states are `SeqP` is a `ReachableX` run -/
theorem c08_sequential_in_scope (hn : 0 < n) :
    (∀ s : St, SeqP s → ∀ t id idx g, s.thr t = .rCan id idx g → AllAdmitted s) ∧
    (∀ (s : St) (a : Act), Inv s → SeqP s → CanExact s a) ∧
    (∀ (s : St) (a : Act), SeqP s → (startsP a → ∀ u, ¬ callP (s.thr u)) → SeqP (apply s a)) ∧
    (∀ as, RunSeqP (init n) as → ReachableX n (run (init n) as)) :=
  ⟨fun _ hs _ _ _ _ => allAdmitted_of_seqP hs, canExact_of_seqP, seqP_apply, reachableX_of_runSeqP hn⟩

/-- while `t` holds an admitted sequence number `id`, its slot `id % N` is private: no action of another thread changes
    it, the owner's own actions other than `fill` (and its own `pWrite`) do not change it, and `fill t v` sets it to `v`.
    With `c08_publish_idx_exact` and C01: what is delivered for a sent reservation is the last value written through it. -/
theorem c08_slot_private (hn : 0 < n) (hr : ReachableX n s) (t id : Nat) (hp : passedP (s.thr t) id) :
    (∀ a, a.thread ≠ t → (apply s a).buf (id % s.N) = s.buf (id % s.N)) ∧
    (∀ a, a.thread = t → (∀ u v, a ≠ .fill u v) → (a = .step t → ∀ v id len, s.thr t ≠ .pWrite v id len) →
        (apply s a).buf = s.buf) ∧
    (∀ v, s.thr t = .rHold id → (apply s (.fill t v)).buf (id % s.N) = v) :=
  ⟨apply_buf_other (reachable_inv hn hr) hp, apply_buf_own s t, fill_buf s t id⟩

/-- a cancel step never appends to `accepted` (the cancelled slot's content is never delivered: its sequence number is
    not accepted, `accepted[id]? = none`); after a successful exact cancel the sequence number is the next one issued -/
theorem c08_cancelled_never_delivered (hn : 0 < n) (hr : ReachableX n s) (t id idx g : Nat)
    (ht : s.thr t = .rCan id idx g) :
    (step s t).accepted = s.accepted ∧ (step s t).delivered = s.delivered ∧ (step s t).tail = s.tail ∧
    s.accepted[id]? = none ∧
    (CanExact s (.step t) → s.enqTail = g + 1 → (step s t).enqTail = id ∧
        ∀ u v rsv, (step s t).thr u = .pFetch v rsv → (step (step s t) u).thr u = .pLoadHead v id rsv) := by
  have hi := reachable_inv hn hr
  have f := (rCan_sameCells ht).1
  have me := hi.pRange t id (by simp [ht, holdsP])
  refine ⟨f.accepted, f.delivered, f.tail, ?_, ?_⟩
  · rw [List.getElem?_eq_none_iff, hi.accLen]; exact me.1
  · intro hex he
    obtain rfl := hex t id idx g rfl ht he
    have he' : (step s t).enqTail = g := by rw [rCan_success ht he]; rfl
    exact ⟨he', fun u v rsv hu => by rw [pFetch_step hu, he']⟩

/-- no leak: once every call returned and every reservation was published or cancelled (all threads `idle`), the private
    claim counters equal the public ones and the full capacity is available: from an empty quiescent state exactly `N`
    further sends are accepted -/
theorem c08_no_leak (hn : 0 < n) (hr : ReachableX n s) (hid : ∀ t, s.thr t = .idle) :
    s.enqTail = s.tail ∧ s.deqHead = s.head ∧
    (abs s = [] → ∀ t vs, vs.length = s.N →
        (fillSolo t s vs).2 = (List.range' 1 s.N).map (fun l => Loc.done (.sent l)) ∧ abs (fillSolo t s vs).1 = vs ∧
        ∀ w, (run (fillSolo t s vs).1 (sendSolo t w)).thr t = .done .full) := by
  refine ⟨(c16_quiescent hn hr hid).1, (c16_quiescent hn hr hid).2, fun hemp t vs hlen => ?_⟩
  obtain ⟨h1, h2, _, _, h5⟩ := c16_fill_drain hn hr t hid hemp vs (Nat.le_of_eq hlen)
  exact ⟨hlen ▸ h1, h2, fun w => (h5 hlen w).1⟩

/-- cancelling out of order is refused: with a higher sequence number still claimed, the cancel CAS cannot succeed, the
    caller keeps its reservation, `enqTail` is unchanged, and the call returns `canIdx false` within two own steps -/
theorem c08_cancel_out_of_order_refused (hn : 0 < n) (hr : ReachableX n s) (hadm : AllAdmitted s) (t id idx g : Nat)
    (ht : s.thr t = .rCan id idx g) (hhi : ∃ u k, holdsP (s.thr u) k ∧ id < k) :
    s.enqTail ≠ g + 1 ∧ (step s t).enqTail = s.enqTail ∧ holdsP ((step s t).thr t) id ∧
    ((step s t).thr t = .rRet id (.canIdx false) ∨ (step (step s t) t).thr t = .rRet id (.canIdx false)) :=
  rCan_out_of_order (reachable_inv hn hr) hadm ht hhi

/-! ## non-vacuity -/

/-- reserve, fill twice, publish by index, receive: the last value written is delivered -/
example : let s := run (init 2) [.reserve 0, .step 0, .step 0, .ack 0, .fill 0 8, .fill 0 9, .pubIdx 0, .step 0, .ack 0,
      .recv 1, .step 1, .step 1, .step 1, .step 1]
    ReachableX 2 s ∧ s.delivered = [(1, 0, 9)] ∧ s.thr 1 = .done (.got 9) :=
  ⟨reachableX_of_noCancel 2 _ (by intro t; simp), by decide, by decide⟩

/-- second lap (ids 2, 3 in a ring of 2): the index-based publish needs a re-guess and then succeeds on its own id -/
example : let s := run (init 2) ((sendSolo 0 1 ++ [.ack 0] ++ recvSolo 1 ++ [.ack 1]) ++ (sendSolo 0 2 ++ [.ack 0] ++ recvSolo 1 ++ [.ack 1])
      ++ [.reserve 0, .step 0, .step 0, .ack 0, .fill 0 7, .pubIdx 0, .step 0])
    s.thr 0 = .rPub 2 0 2 ∧ s.tail = 2 ∧ (step s 0).accepted = [1, 2, 7] := by decide

/-- sequential producers: reserve twice (threads 0, 1), cancel the later one: every state of the run is `SeqP` (so the run
    is in scope), the hypotheses of `c08_cancel_exact` hold at the cancel step and the cancel succeeds on its own id -/
example : let as : List Act := [.reserve 0, .step 0, .step 0, .ack 0, .reserve 1, .step 1, .step 1, .ack 1, .canIdx 1]
    RunSeqP (init 2) (as ++ [.step 1]) ∧ AllAdmitted (run (init 2) as) ∧ (run (init 2) as).thr 1 = .rCan 1 1 1 ∧
    (run (init 2) as).enqTail = 2 ∧ (step (run (init 2) as) 1).enqTail = 1 := by
  intro as
  have h1 : RunSeqP (init 2) (as ++ [.step 1]) := runSeqP_init_of_check 2 [0, 1] (by decide) _ (by decide)
  have h2 : (run (init 2) as).thr 1 = .rCan 1 1 1 := by decide
  exact ⟨h1, allAdmitted_of_seqP (seqP_of_runSeqP_snoc _ _ _ h1) h2, h2, by decide, by decide⟩

/-- … and cancelling the earlier one first is refused -/
example : let s := run (init 2) [.reserve 0, .step 0, .step 0, .ack 0, .reserve 1, .step 1, .step 1, .ack 1, .canIdx 0]
    s.thr 0 = .rCan 0 0 0 ∧ holdsP (s.thr 1) 1 ∧ (step s 0).thr 0 = .rRet 0 (.canIdx false) := by
  refine ⟨by decide, by simp [run, apply, step, init, setThr, holdsP], by decide⟩

#print axioms c08_publish_idx_exact
#print axioms c08_cancel_exact
#print axioms c08_sequential_in_scope
#print axioms c08_slot_private
#print axioms c08_cancelled_never_delivered
#print axioms c08_no_leak
#print axioms c08_cancel_out_of_order_refused

end Mutiny.Ring
