import Mutiny.Proofs.MmapProps

/-!
# C09 — the mmap log topic: one total order, full replay, exact old/new split, stable references

Scope: every `s` with `ReachableX s` (`Proofs/MmapInv.lean`): reachable by any schedule of any number of threads in
which every subscriber is polled by one thread at a time (`PollOk`; `runOk_of_owned`: one consumer thread per subscriber
suffices).  Without that side condition events ARE lost: `two_pollers_skip` (`Proofs/MmapInv.lean`).

`cur s i` is the logical cursor of subscriber `i`, `delPV s i` the `(position, value)` list it received so far
(`Proofs/MmapProps.lean`), `delOf s i` the positions alone (`Proofs/MmapInv.lean`).
-/

namespace Mutiny.MmapLog

variable {s : St}

/-- ONE total order, the same for everybody: positions become visible in position order (`log` is indexed by position);
    whatever any listener receives for position `p` is the log's entry for `p` (so any two listeners agree); the log
    only ever grows (any continuation).  Per-producer consistency: a send takes the position `pubTail` at its
    `fetch_add`, which is above the position of every send that completed before (those are in `log`, i.e.
    `< consTail ≤ pubTail`), now and in every continuation; it writes its value into that slot, and completes —
    appending exactly `(pos, value)` — at the moment `consTail = pos`, not before. -/
theorem c09_total_order (hr : ReachableX s) :
    s.log.map (·.1) = List.range s.consTail ∧ s.consTail ≤ s.pubTail ∧
    (∀ i p v, (i, p, v) ∈ s.delivered → s.log[p]? = some (p, v)) ∧
    (∀ i j p v w, (i, p, v) ∈ s.delivered → (j, p, w) ∈ s.delivered → v = w) ∧
    (∀ as, ∃ l, (run s as).log = s.log ++ l) ∧
    (∀ p w, (p, w) ∈ s.log → p < s.consTail ∧ ∀ as, p < (run s as).pubTail) ∧
    (∀ t v, s.thr t = .pFetch v → (step s t).thr t = .pWrite v s.pubTail ∧ (step s t).pubTail = s.pubTail + 1) ∧
    (∀ t v pos, s.thr t = .pWrite v pos → s.consTail ≤ pos ∧ s.slots pos = none ∧
        (step s t).slots pos = some v ∧ (step s t).thr t = .pPublish pos ∧ (step s t).log = s.log) ∧
    (∀ t pos, s.thr t = .pPublish pos → ∃ v, s.slots pos = some v ∧ s.consTail ≤ pos ∧
        (s.consTail = pos → (step s t).thr t = .done .unit ∧ (step s t).log = s.log ++ [(pos, v)] ∧
            (step s t).consTail = pos + 1) ∧
        (s.consTail ≠ pos → step s t = s)) := by
  have hi := reachable_inv hr
  refine ⟨log_pos hi, hi.hCP, fun i p v hm => hi.delVal _ hm, ?_, fun as => (mono_run s as).log, ?_,
    fun t v => pFetch_step, fun t v pos ht => (pWrite_step hi ht).2.2, ?_⟩
  · intro i j p v w h1 h2
    exact (Prod.mk.inj (Option.some.inj ((hi.delVal _ h1).symm.trans (hi.delVal (j, p, w) h2)))).2
  · intro p w hm
    have hp := log_mem_lt hi hm
    refine ⟨hp, fun as => ?_⟩
    have := (mono_run s as).pub
    have := hi.hCP
    omega
  · intro t pos ht
    obtain ⟨v, hv⟩ := hi.shared.written (hi.wPub t pos ht)
    refine ⟨v, hv, (hi.pRange t pos (by rw [ht]; rfl)).1, fun e => ?_, fun e => ?_⟩ <;>
      simp [step, ht, e, hv, setThr]

/-- a joined subscriber (`subscribe_to_joined_old_and_new_events`: dynamic, cursor 0) replays the entire history: what
    it received so far is *literally* the first `cur` entries of the log — positions `0, 1, …, cur-1`, each once, in
    order, with the log's values.  A poll answers `none` only if, when it loaded `consumer_tail`, nothing visible was
    left (`consTail ≤ cur`, hence `cur = consTail` and everything visible has been yielded: `delPV = log`); otherwise it
    delivers position `cur` with the log's value.  The `none` path delivers nothing and gives the cursor back. -/
theorem c09_joined_replay (hr : ReachableX s) :
    (∀ t, s.thr t = .idle →
        (apply s (.subJoined t)).thr t = .done (.subs s.subs.length none) ∧
        (apply s (.subJoined t)).subs.length = s.subs.length + 1 ∧
        getSub (apply s (.subJoined t)) s.subs.length = { kind := .dyn, head := 0, start := 0 }) ∧
    (∀ i, i < s.subs.length → (getSub s i).kind = .dyn → (getSub s i).start = 0 →
        cur s i ≤ s.consTail ∧ delPV s i = s.log.take (cur s i) ∧ delOf s i = List.range (cur s i) ∧
        (∀ p v, (i, p, v) ∈ s.delivered ↔ p < cur s i ∧ s.log[p]? = some (p, v)) ∧
        (∀ t c, s.thr t = .cLoadTail i c → cur s i = c ∧
            (s.consTail ≤ c → (step s t).thr t = .cRecede i c ∧ delPV s i = s.log) ∧
            (c < s.consTail → (step s t).thr t = .cRead i c)) ∧
        (∀ t c, s.thr t = .cRecede i c → cur s i = c ∧ (step s t).thr t = .done (.item none) ∧
            (step s t).delivered = s.delivered ∧ (getSub (step s t) i).head = c) ∧
        (∀ t c, s.thr t = .cRead i c → cur s i = c ∧ ∃ v, s.log[c]? = some (c, v) ∧
            (step s t).thr t = .done (.item (some v)) ∧ (step s t).delivered = s.delivered ++ [(i, c, v)])) := by
  have hi := reachable_inv hr
  constructor
  · intro t ht
    simp only [apply, if_pos ht]
    exact ⟨by simp, by simp [setThr], getSub_addSubs_add s _ 0⟩
  · intro i hlt hk hs
    have d := Received.of_inv hi hlt hs
    have hb := d.bound
    rw [hk] at hb
    exact ⟨hb, d.seg, by rw [List.range_eq_range']; exact d.pos,
      fun p v => (d.mem p v).trans (and_iff_right (Nat.zero_le p)),
      fun t c => cLoadTail_step hi hs, fun t c => cRecede_step hi, fun t c => cRead_step hi⟩

/-- the (old, new) pair of `subscribe_to_separated_old_and_new_events` partitions the log at the loaded tail `tl`.
    Every fixed subscriber `i` (kind `fixed tl`) IS the old half of such a pair and `i + 1` is its new half (`dyn`,
    `start = tl`); `tl ≤ consTail`.  The old half received *literally* `log[0, cur_old)` with `cur_old ≤ tl`, the new
    half `log[tl, cur_new)`: every position `< tl` only ever in the old one, every position `≥ tl` only ever in the new
    one, no position twice, and once the old half is exhausted (`cur_old = tl`) the two together are the gap-free prefix
    `log[0, cur_new)`.  The old half answers `none` exactly when `cur_old = tl` (it decides at its `fetch_add`), i.e.
    exactly when it has yielded all of `log[0, tl)`. -/
theorem c09_split_partition (hr : ReachableX s) (i tl : Nat) (hlt : i < s.subs.length)
    (hk : (getSub s i).kind = .fixed tl) :
    ((getSub s i).start = 0 ∧ i + 1 < s.subs.length ∧ (getSub s (i + 1)).kind = .dyn ∧ (getSub s (i + 1)).start = tl) ∧
    (tl ≤ s.consTail ∧ cur s i ≤ tl ∧ tl ≤ cur s (i + 1) ∧ cur s (i + 1) ≤ s.consTail) ∧
    (delPV s i = s.log.take (cur s i) ∧ delPV s (i + 1) = (s.log.drop tl).take (cur s (i + 1) - tl)) ∧
    (∀ p v, (i, p, v) ∈ s.delivered ↔ p < cur s i ∧ s.log[p]? = some (p, v)) ∧
    (∀ p v, (i + 1, p, v) ∈ s.delivered ↔ tl ≤ p ∧ p < cur s (i + 1) ∧ s.log[p]? = some (p, v)) ∧
    (∀ p v, (i, p, v) ∈ s.delivered → p < tl) ∧ (∀ p v, (i + 1, p, v) ∈ s.delivered → tl ≤ p) ∧
    (delOf s i ++ delOf s (i + 1)).Nodup ∧
    (cur s i = tl → delPV s i = s.log.take tl ∧ delPV s i ++ delPV s (i + 1) = s.log.take (cur s (i + 1))) ∧
    (∀ t, s.thr t = .cFetch i →
        (cur s i = tl → (step s t).thr t = .cRecede i tl) ∧
        (cur s i ≠ tl → cur s i < tl ∧ (step s t).thr t = .cRead i (cur s i))) ∧
    (∀ t c, s.thr t = .cRecede i c → c = tl ∧ cur s i = tl ∧ (step s t).thr t = .done (.item none) ∧
        (step s t).delivered = s.delivered ∧ (getSub (step s t) i).head = tl) ∧
    (∀ t c, s.thr t = .cRead i c → c < tl ∧ cur s i = c ∧ ∃ v, s.log[c]? = some (c, v) ∧
        (step s t).thr t = .done (.item (some v)) ∧ (step s t).delivered = s.delivered ++ [(i, c, v)]) := by
  have hi := reachable_inv hr
  have f := split_of_fixed hi hlt hk
  have le_tl := f.old  -- `cur s i ≤ tl`, read by the `omega`s below
  have old := Received.of_inv hi hlt f.start
  have new := Received.of_inv hi f.lt f.start'
  have d1 : delPV s i = s.log.take (cur s i) := old.seg
  refine ⟨⟨f.start, f.lt, f.kind', f.start'⟩, ⟨f.tail, f.old, f.new, f.vis⟩, ⟨d1, new.seg⟩,
    fun p v => (old.mem p v).trans (and_iff_right (Nat.zero_le p)), new.mem, ?_, ?_, ?_, ?_, ?_, ?_, ?_⟩
  · intro p v hm; have := (old.mem p v).mp hm; omega
  · intro p v hm; exact ((new.mem p v).mp hm).1
  · rw [old.pos, new.pos, List.nodup_append]
    refine ⟨List.nodup_range', List.nodup_range', fun a ha b hb => ?_⟩
    rw [List.mem_range'_1] at ha hb
    omega
  · intro e
    rw [e] at d1
    exact ⟨d1, by rw [d1, new.seg, ← List.take_add, Nat.add_sub_cancel' f.new]⟩
  · intro t ht
    rw [cur_idle (hi.unclaimed ht)] at le_tl ⊢
    simp only [step, ht, hk]
    exact ⟨fun e => by rw [if_pos (Nat.le_of_eq e.symm), e]; simp,
      fun e => by rw [if_neg (by omega)]; exact ⟨by omega, by simp⟩⟩
  · intro t c ht
    obtain ⟨g1, g2⟩ := cRecede_step hi ht
    have := hi.recOk t i c tl ht hk
    have e : c = tl := by omega
    exact ⟨e, e ▸ g1, e ▸ g2⟩
  · intro t c ht
    exact ⟨(hi.readOk t i c ht).2 tl hk, cRead_step hi ht⟩

/-- the split in time: the `mm.s.load` step of `subscribe_to_separated_old_and_new_events` (thread `t`, state `s`,
    loading `tl = consTail`) creates subscribers `n` (old, `fixed tl`, cursor 0) and `n + 1` (new, `dyn`, cursor `tl`);
    in every later state `s'` they still are such a pair (so `c09_split_partition` applies to them) and
    `s'.log = s.log ++ l`: the old half replays exactly the log as it was at the load (`s.log`, all sends completed
    before), the new half delivers exactly from `l` (everything that became visible afterwards).  Sends in flight at the
    load hold positions `≥ tl`, and every send that fetches its position later gets one `≥ tl`: all of them land in the
    new half only. -/
theorem c09_split_created (hr : ReachableX s) (t : Nat) (ht : s.thr t = .sLoad true) (as : List Act)
    (hok : RunOk (step s t) as) :
    let n := s.subs.length
    let tl := s.consTail
    let s' := run (step s t) as
    (step s t).thr t = .done (.subs n (some (n + 1))) ∧ (step s t).subs.length = n + 2 ∧
    getSub (step s t) n = { kind := .fixed tl, head := 0, start := 0 } ∧
    getSub (step s t) (n + 1) = { kind := .dyn, head := tl, start := tl } ∧
    ReachableX s' ∧ n + 1 < s'.subs.length ∧
    (getSub s' n).kind = .fixed tl ∧ (getSub s' n).start = 0 ∧
    (getSub s' (n + 1)).kind = .dyn ∧ (getSub s' (n + 1)).start = tl ∧
    (∀ p w, (p, w) ∈ s.log → p < tl) ∧ s.log.length = tl ∧
    (∀ u k, holdsP (s.thr u) k → tl ≤ k) ∧
    (∀ u v, s'.thr u = .pFetch v → (step s' u).thr u = .pWrite v s'.pubTail ∧ tl ≤ s'.pubTail) ∧
    (∃ l, s'.log = s.log ++ l ∧ delPV s' n = s.log.take (cur s' n) ∧ delPV s' (n + 1) = l.take (cur s' (n + 1) - tl)) := by
  dsimp only
  have a := AfterLoad.of_run hr (by simp only [step, ht]; rfl) as hok
  obtain ⟨g1, lt1, k1, s1⟩ := a.new s.subs.length 0 _ rfl rfl
  obtain ⟨g2, lt2, k2, s2⟩ := a.new (s.subs.length + 1) 1 _ rfl rfl
  obtain ⟨l, hl⟩ := a.log
  have hi' := reachable_inv a.reach
  refine ⟨a.thr, a.len, g1, g2, a.reach, lt2, k1, s1, k2, s2, a.below, a.logLen, a.flight, a.later, l, hl, ?_, ?_⟩
  · -- the old half stays below `tl`, inside the log as it was at the load
    rw [(Received.of_inv hi' lt1 s1).seg, hl]
    exact List.take_append_of_le_length (by rw [a.logLen]; exact (split_of_fixed hi' lt1 k1).old)
  · rw [(Received.of_inv hi' lt2 s2).seg, hl, List.drop_left' a.logLen]

/-- `subscribe_to_new_events_only`: its `mm.s.load` step (loading `tl = consTail`) creates subscriber `n` (`dyn`, cursor
    `tl`); in every later state `s'`, with `s'.log = s.log ++ l`, it received *literally* the first `cur - tl` entries
    of `l`: nothing that was visible at the load, everything afterwards, in order, each once.  Sends in flight at the
    load and all later sends have positions `≥ tl`. -/
theorem c09_new_only (hr : ReachableX s) (t : Nat) (ht : s.thr t = .sLoad false) (as : List Act)
    (hok : RunOk (step s t) as) :
    let n := s.subs.length
    let tl := s.consTail
    let s' := run (step s t) as
    (step s t).thr t = .done (.subs n none) ∧ (step s t).subs.length = n + 1 ∧
    getSub (step s t) n = { kind := .dyn, head := tl, start := tl } ∧
    ReachableX s' ∧ n < s'.subs.length ∧ (getSub s' n).kind = .dyn ∧ (getSub s' n).start = tl ∧
    tl ≤ cur s' n ∧ cur s' n ≤ s'.consTail ∧
    (∀ p w, (p, w) ∈ s.log → p < tl) ∧ s.log.length = tl ∧
    (∀ u k, holdsP (s.thr u) k → tl ≤ k) ∧
    (∀ u v, s'.thr u = .pFetch v → (step s' u).thr u = .pWrite v s'.pubTail ∧ tl ≤ s'.pubTail) ∧
    (∀ p v, (n, p, v) ∈ s'.delivered ↔ tl ≤ p ∧ p < cur s' n ∧ s'.log[p]? = some (p, v)) ∧
    (∃ l, s'.log = s.log ++ l ∧ delPV s' n = l.take (cur s' n - tl)) ∧
    (∀ u c, s'.thr u = .cLoadTail n c → cur s' n = c ∧
        (s'.consTail ≤ c → (step s' u).thr u = .cRecede n c ∧ delPV s' n = s'.log.drop tl) ∧
        (c < s'.consTail → (step s' u).thr u = .cRead n c)) := by
  dsimp only
  have a := AfterLoad.of_run hr (by simp only [step, ht]; rfl) as hok
  obtain ⟨g1, lt1, k1, s1⟩ := a.new s.subs.length 0 _ rfl rfl
  obtain ⟨l, hl⟩ := a.log
  have hi' := reachable_inv a.reach
  have d := Received.of_inv hi' lt1 s1
  have hb := d.bound
  rw [k1] at hb
  exact ⟨a.thr, a.len, g1, a.reach, lt1, k1, s1, d.le, hb, a.below, a.logLen, a.flight, a.later, d.mem,
    ⟨l, hl, by rw [d.seg, hl, List.drop_left' a.logLen]⟩, fun u c => cLoadTail_step hi' s1⟩

/-- references handed to listeners stay valid and unchanged: every slot is written at most once; a written slot is never
    rewritten by any action (so in particular everything below `consTail` — everything a listener can hold a reference
    to — is frozen, now and in every continuation); the only writer of a slot is the holder of its position, before
    that position becomes visible. -/
theorem c09_references_stable (hr : ReachableX s) :
    (∀ p, s.writes p ≤ 1) ∧ (∀ p, s.slots p = none ↔ s.writes p = 0) ∧
    (∀ a p v, s.slots p = some v → (apply s a).slots p = some v) ∧
    (∀ a p, p < s.consTail → (apply s a).slots p = s.slots p) ∧
    (∀ as p v, RunOk s as → s.slots p = some v → (run s as).slots p = some v) ∧
    (∀ p, p < s.consTail → ∃ v, s.slots p = some v ∧ s.log[p]? = some (p, v) ∧
        ∀ as, RunOk s as → (run s as).slots p = some v ∧ (run s as).log[p]? = some (p, v)) ∧
    (∀ i p v, (i, p, v) ∈ s.delivered → s.slots p = some v ∧ ∀ as, RunOk s as → (run s as).slots p = some v) ∧
    (∀ t v pos, s.thr t = .pWrite v pos → s.consTail ≤ pos ∧ s.writes pos = 0 ∧ (step s t).writes pos = 1) := by
  have hi := reachable_inv hr
  refine ⟨writes_le_one hi, hi.slotW, fun a p v hs => slots_stable_apply hi a hs, ?_,
    fun as p v hok hs => slots_stable_run hi as hok hs, ?_, ?_, ?_⟩
  · intro a p hp
    obtain ⟨v, hv, _⟩ := hi.logOk p hp
    rw [hv]; exact slots_stable_apply hi a hv
  · intro p hp
    obtain ⟨v, hv1, hv2⟩ := hi.logOk p hp
    refine ⟨v, hv1, hv2, fun as hok => ⟨slots_stable_run hi as hok hv1, ?_⟩⟩
    obtain ⟨l, hl⟩ := (mono_run s as).log
    rw [hl]; exact getElem?_append_of_some hv2
  · intro i p v hm
    have := (log_getElem?_fst hi (hi.delVal _ hm)).2.2
    exact ⟨this, fun as hok => slots_stable_run hi as hok this⟩
  · intro t v pos ht
    obtain ⟨w0, w1, lo, _⟩ := pWrite_step hi ht
    exact ⟨lo, w0, w1⟩

/-! ## non-vacuity -/

set_option maxRecDepth 8192 in
/-- the whole run is in scope; publishers finish out of order in time but in position order in the log; every listener
    agrees with the log -/
example : let s := run init (demoA ++ demoB ++ [.step 2] ++ demoC ++ demoD ++ [.step 6] ++ demoE)
    ReachableX s ∧ s.log = [(0, 10), (1, 11), (2, 12)] ∧
    s.delivered = [(0, 0, 10), (1, 1, 11), (2, 0, 10), (2, 1, 11), (3, 2, 12)] ∧ s.consTail = 3 ∧ s.pubTail = 3 :=
  ⟨demo_reachable _ (by decide), by decide, by decide, by decide, by decide⟩

/-- hypotheses of `c09_total_order`'s publish clause: thread 1 at `pPublish 1` while `consTail = 0` (spins), and later
    while `consTail = 1` (completes) -/
example : let s := run init [.send 0 10, .send 1 11, .step 0, .step 1, .step 1]
    ReachableX s ∧ s.thr 1 = .pPublish 1 ∧ s.consTail = 0 ∧ s.thr 0 = .pWrite 10 0 :=
  ⟨demo_reachable _ (by decide), by decide, by decide, by decide⟩

/-- hypotheses of `c09_split_created` / `c09_split_partition`: the load step happens with position 0 visible and
    position 1 in flight; afterwards subscriber 0 is `fixed 1` -/
example : let s := run init (demoA ++ demoB)
    ReachableX s ∧ s.thr 2 = .sLoad true ∧ s.consTail = 1 ∧ s.thr 1 = .pPublish 1 ∧
    RunOk (step s 2) (demoC ++ demoD ++ [.step 6] ++ demoE) ∧
    (getSub (run (step s 2) demoC) 0).kind = .fixed 1 ∧ 0 < (run (step s 2) demoC).subs.length :=
  ⟨demo_reachable _ (by decide), by decide, by decide, by decide, demo_runOk (by decide), by decide, by decide⟩

/-- the old half answers `none` (thread 3 at `cRecede 0 1`, `1 = tl`) -/
example : let s := run init (demoA ++ demoB ++ [.step 2, .ack 2, .step 1, .ack 1,
      .poll 3 0, .step 3, .step 3, .ack 3, .poll 3 0, .step 3])
    ReachableX s ∧ s.thr 3 = .cRecede 0 1 ∧ s.delivered = [(0, 0, 10)] :=
  ⟨demo_reachable _ (by decide), by decide, by decide⟩

/-- hypotheses of `c09_joined_replay`: subscriber 2 is joined, thread 5 is at its `cLoadTail` with nothing left -/
example : let s := run init (demoA ++ demoB ++ [.step 2] ++ demoC.take 30)
    ReachableX s ∧ 2 < s.subs.length ∧ (getSub s 2).kind = .dyn ∧ (getSub s 2).start = 0 ∧
    s.thr 5 = .cLoadTail 2 2 ∧ s.consTail = 2 :=
  ⟨demo_reachable _ (by decide), by decide, by decide, by decide, by decide, by decide⟩

/-- hypotheses of `c09_new_only`: the load step of thread 6 with two positions visible -/
example : let s := run init (demoA ++ demoB ++ [.step 2] ++ demoC ++ demoD)
    ReachableX s ∧ s.thr 6 = .sLoad false ∧ s.consTail = 2 ∧ RunOk (step s 6) demoE :=
  ⟨demo_reachable _ (by decide), by decide, by decide, demo_runOk (by decide)⟩

/-- hypotheses of `c09_references_stable`: a written, visible, delivered slot -/
example : let s := run init (demoA ++ demoB ++ [.step 2] ++ demoC)
    ReachableX s ∧ s.slots 1 = some 11 ∧ s.writes 1 = 1 ∧ 1 < s.consTail ∧ (1, 1, 11) ∈ s.delivered :=
  ⟨demo_reachable _ (by decide), by decide, by decide, by decide, by decide⟩

#print axioms c09_total_order
#print axioms c09_joined_replay
#print axioms c09_split_partition
#print axioms c09_split_created
#print axioms c09_new_only
#print axioms c09_references_stable

end Mutiny.MmapLog
