import Mutiny.Proofs.LockRingProps

/-!
# C16 on the `LockRing` model (`FullSyncMove`): sequential behaviour

With every other thread idle the ring behaves like a bounded FIFO queue: `send` returns `sent (length + 1)` while there
is room and `full` (changing nothing) otherwise; `recv` returns the oldest element or `empty`.  Step counts from the
model: `pLock → pCheck → pWrite → pPublish → pUnlocked → done` (5), `pLock → pCheck → pFullUnlocked → done` (3),
`cLock → cLenT → cLen → cRead → cRelease → cUnlocked → done` (6), `cLock → cLenT → cLen → cEmptyUnlocked → done` (4).
-/

namespace Mutiny.LockRing

/-- In a quiescent state the flag is free. -/
theorem c16_quiescent {n : Nat} {s : St} (hn : 0 < n) (h : Reachable n s) (hidle : ∀ t, s.thr t = .idle) :
    s.locked = false :=
  unlocked_of_idle (reachable_inv hn h) hidle

/-- A solo `send`. -/
theorem c16_solo_send {n : Nat} {s : St} (hn : 0 < n) (h : Reachable n s) (t v : Nat)
    (ho : ∀ u, u ≠ t → s.thr u = .idle) (ht : s.thr t = .idle) :
    ((abs s).length < s.N →
      let s' := run s [.send t v, .step t, .step t, .step t, .step t, .step t]
      s'.thr t = .done (.sent ((abs s).length + 1)) ∧ abs s' = abs s ++ [v] ∧ s'.locked = false
        ∧ (∀ u, u ≠ t → s'.thr u = .idle))
    ∧ ((abs s).length = s.N →
      let s' := run s [.send t v, .step t, .step t, .step t]
      s'.thr t = .done .full ∧ abs s' = abs s ∧ s'.buf = s.buf ∧ s'.tail = s.tail ∧ s'.head = s.head
        ∧ s'.locked = s.locked ∧ s'.accepted = s.accepted ∧ s'.delivered = s.delivered
        ∧ (∀ u, u ≠ t → s'.thr u = .idle)) := by
  have hi := reachable_inv hn h
  have hl := unlocked_of_others_idle hi ho (by simp [ht, holder])
  have hlen := abs_length hi
  have hoth : ∀ l u, u ≠ t → (setThr s t l).thr u = .idle := fun l u hu => by simp [hu, ho u hu]
  constructor
  · intro hroom
    have e := run_send_ok v ht hl (by omega)
    simp only [sendActs] at e
    simp only [e, hlen]
    exact ⟨by simp, hi.data.drop_snoc v, rfl, hoth _⟩
  · intro hfull
    have e := run_send_full v ht hl (by omega)
    simp only [e]
    exact ⟨by simp, rfl, rfl, rfl, rfl, rfl, rfl, rfl, hoth _⟩

/-- A solo `recv`. -/
theorem c16_solo_recv {n : Nat} {s : St} (hn : 0 < n) (h : Reachable n s) (t : Nat)
    (ho : ∀ u, u ≠ t → s.thr u = .idle) (ht : s.thr t = .idle) :
    (∀ x xs, abs s = x :: xs →
      let s' := run s [.recv t, .step t, .step t, .step t, .step t, .step t, .step t]
      s'.thr t = .done (.got x) ∧ abs s' = xs ∧ s'.locked = false ∧ (∀ u, u ≠ t → s'.thr u = .idle))
    ∧ (abs s = [] →
      let s' := run s [.recv t, .step t, .step t, .step t, .step t]
      s'.thr t = .done .empty ∧ abs s' = abs s ∧ s'.buf = s.buf ∧ s'.tail = s.tail ∧ s'.head = s.head
        ∧ s'.locked = s.locked ∧ s'.accepted = s.accepted ∧ s'.delivered = s.delivered
        ∧ (∀ u, u ≠ t → s'.thr u = .idle)) := by
  have hi := reachable_inv hn h
  have hl := unlocked_of_others_idle hi ho (by simp [ht, holder])
  have hlen := abs_length hi
  have hoth : ∀ l u, u ≠ t → (setThr s t l).thr u = .idle := fun l u hu => by simp [hu, ho u hu]
  constructor
  · intro x xs hne
    have hlt : s.head < s.tail := by simp [hne] at hlen; omega
    have hc : abs s = _ := hi.data.drop_cons hlt
    rw [hne, List.cons.injEq] at hc
    have e := run_recv_ok ht hl (by omega)
    simp only [recvActs] at e
    simp only [e]
    exact ⟨by simp [hc.1], hc.2.symm, rfl, fun u hu => by simp [hu, deq, ho u hu]⟩
  · intro hemp
    rw [abs_eq_nil_iff hi] at hemp
    have e := run_recv_empty ht hl (by omega)
    simp only [e]
    exact ⟨by simp, rfl, rfl, rfl, rfl, rfl, rfl, rfl, hoth _⟩

/-- Fill: from a quiescent empty ring, `fill t s vs` (`soloSend = send; step×5; record result; ack`, one per value)
accepts all `k ≤ N` values, the `i`-th call reporting length `i + 1`; the abstract queue is then `vs`, the state is
quiescent and reachable; and when `k = N` one more `send` is rejected with `full`, leaving the state unchanged. -/
theorem c16_fill_drain {n : Nat} {s : St} (hn : 0 < n) (h : Reachable n s) (t : Nat)
    (hidle : ∀ u, s.thr u = .idle) (hemp : abs s = []) (vs : List Nat) (hk : vs.length ≤ s.N) :
    (fill t s vs).2 = (List.range vs.length).map (fun i => Loc.done (.sent (i + 1)))
    ∧ abs (fill t s vs).1 = vs
    ∧ (∀ u, (fill t s vs).1.thr u = .idle)
    ∧ Reachable n (fill t s vs).1
    ∧ (vs.length = s.N → ∀ w, (soloSend (fill t s vs).1 t w).2 = .done .full
                              ∧ (soloSend (fill t s vs).1 t w).1 = (fill t s vs).1) := by
  have hi := reachable_inv hn h
  obtain ⟨f1, f2, f3, f4⟩ := fill_spec t hi hidle vs (by simp [hemp, hk])
  have hr := reachable_fill t vs h
  refine ⟨by simpa [hemp, List.range'_eq_map_range, Nat.add_comm, Function.comp_def] using f1,
    by simpa [hemp] using f2, f3, hr, ?_⟩
  intro hfull w
  have hi' := reachable_inv hn hr
  have := abs_length hi'
  rw [soloSend_full w (f3 t) (unlocked_of_idle hi' f3) (by rw [f2, hemp, List.nil_append] at this; omega)]
  exact ⟨rfl, rfl⟩

/-- Drain: from a quiescent state whose abstract queue is `xs`, `drain t s xs.length` (`soloRecv = recv; step×6; record
result; ack`) returns exactly `xs` in order, ends quiescent with an empty queue, and one more `recv` reports `empty`. -/
theorem c16_drain {n : Nat} {s : St} (hn : 0 < n) (h : Reachable n s) (t : Nat)
    (hidle : ∀ u, s.thr u = .idle) (xs : List Nat) (hxs : abs s = xs) :
    (drain t s xs.length).2 = xs.map (fun x => Loc.done (.got x))
    ∧ abs (drain t s xs.length).1 = []
    ∧ (∀ u, (drain t s xs.length).1.thr u = .idle)
    ∧ Reachable n (drain t s xs.length).1
    ∧ (soloRecv (drain t s xs.length).1 t).2 = .done .empty := by
  have hi := reachable_inv hn h
  obtain ⟨d1, d2, d3⟩ := drain_spec t hi hidle xs [] (by simpa using hxs)
  have hr := reachable_drain t xs.length h
  have hi' := reachable_inv hn hr
  have := (abs_eq_nil_iff hi').1 d2
  exact ⟨d1, d2, d3, hr, by rw [soloRecv_empty (d3 t) (unlocked_of_idle hi' d3) (by omega)]⟩

/-- Round trip: fill an empty quiescent ring with `vs` (`|vs| ≤ N`), then drain it: the values come back in order. -/
theorem c16_fill_then_drain {n : Nat} {s : St} (hn : 0 < n) (h : Reachable n s) (t t' : Nat)
    (hidle : ∀ u, s.thr u = .idle) (hemp : abs s = []) (vs : List Nat) (hk : vs.length ≤ s.N) :
    (drain t' (fill t s vs).1 vs.length).2 = vs.map (fun x => Loc.done (.got x))
    ∧ abs (drain t' (fill t s vs).1 vs.length).1 = [] := by
  obtain ⟨_, f2, f3, f4, _⟩ := c16_fill_drain hn h t hidle hemp vs hk
  obtain ⟨d1, d2, _⟩ := c16_drain hn f4 t' f3 vs f2
  exact ⟨d1, d2⟩

/-! ## non-vacuity -/

/-- `fill`/`drain` on the initial state of a ring of capacity 2 (the hypotheses of `c16_fill_drain` hold for
`s = init 2`, `vs = [7, 8]`), including the rejected third `send`. -/
example :
    Reachable 2 (init 2) ∧ (∀ u, (init 2).thr u = .idle) ∧ abs (init 2) = [] ∧ [7, 8].length ≤ (init 2).N
    ∧ (fill 0 (init 2) [7, 8]).2 = [.done (.sent 1), .done (.sent 2)]
    ∧ (soloSend (fill 0 (init 2) [7, 8]).1 0 9).2 = .done .full
    ∧ (drain 1 (fill 0 (init 2) [7, 8]).1 2).2 = [.done (.got 7), .done (.got 8)] := by
  refine ⟨⟨[], rfl⟩, fun _ => rfl, rfl, by decide, by decide, by decide, by decide⟩

/-- Solo `send` on a full ring and solo `recv` on an empty ring, with the exact step counts. -/
example :
    let s := run (init 1) [.send 0 7, .step 0, .step 0, .step 0, .step 0, .step 0, .ack 0]
    (∀ u, s.thr u = .idle) ∧ (abs s).length = s.N
    ∧ (run s [.send 1 8, .step 1, .step 1]).thr 1 ≠ .done .full
    ∧ (run s [.send 1 8, .step 1, .step 1, .step 1]).thr 1 = .done .full
    ∧ (run (init 1) [.send 0 7, .step 0, .step 0, .step 0, .step 0]).thr 0 ≠ .done (.sent 1)
    ∧ (run (init 1) [.recv 0, .step 0, .step 0, .step 0, .step 0]).thr 0 = .done .empty := by
  refine ⟨fun u => ?_, by decide, by decide, by decide, by decide, by decide⟩
  by_cases hu : u = 0 <;> simp [run, apply, step, init, hu]

#print axioms c16_quiescent
#print axioms c16_solo_send
#print axioms c16_solo_recv
#print axioms c16_fill_drain
#print axioms c16_drain
#print axioms c16_fill_then_drain

end Mutiny.LockRing
